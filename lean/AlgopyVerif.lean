import AlgopyVerif.Model.Basic
import AlgopyVerif.Model.Convert
import AlgopyVerif.Model.Drivers
import AlgopyVerif.Model.Dtype
import AlgopyVerif.Model.Heap
import AlgopyVerif.Model.Index
import AlgopyVerif.Model.Interp
import AlgopyVerif.Model.Linalg
import AlgopyVerif.Model.NdArray
import AlgopyVerif.Model.NthDeriv
import AlgopyVerif.Model.Pade
import AlgopyVerif.Model.Pullback
import AlgopyVerif.Model.QI
import AlgopyVerif.Model.Series
import AlgopyVerif.Model.Tracer
import AlgopyVerif.Model.Utpm
import AlgopyVerif.Proofs.ArrayAdjoint
import AlgopyVerif.Proofs.Build
import AlgopyVerif.Proofs.Compose
import AlgopyVerif.Proofs.Convert
import AlgopyVerif.Proofs.Drivers
import AlgopyVerif.Proofs.DriversSeed
import AlgopyVerif.Proofs.Dtype
import AlgopyVerif.Proofs.EighStep
import AlgopyVerif.Proofs.Faa
import AlgopyVerif.Proofs.Factor
import AlgopyVerif.Proofs.FactorWide
import AlgopyVerif.Proofs.FaddeevLeVerrier
import AlgopyVerif.Proofs.GammaGeneral
import AlgopyVerif.Proofs.GammaUnivariate
import AlgopyVerif.Proofs.Heap
import AlgopyVerif.Proofs.Index
import AlgopyVerif.Proofs.Interp
import AlgopyVerif.Proofs.Jacobi
import AlgopyVerif.Proofs.Jet
import AlgopyVerif.Proofs.Kernels
import AlgopyVerif.Proofs.Kinks
import AlgopyVerif.Proofs.Lift
import AlgopyVerif.Proofs.Linalg
import AlgopyVerif.Proofs.LineDeriv
import AlgopyVerif.Proofs.Logdet
import AlgopyVerif.Proofs.MatPullback
import AlgopyVerif.Proofs.NdArray
import AlgopyVerif.Proofs.NthComplex
import AlgopyVerif.Proofs.NthDeriv
import AlgopyVerif.Proofs.NthErf
import AlgopyVerif.Proofs.NthLegendre
import AlgopyVerif.Proofs.NthPiecewise
import AlgopyVerif.Proofs.Ode
import AlgopyVerif.Proofs.Pade
import AlgopyVerif.Proofs.Pivot
import AlgopyVerif.Proofs.Power
import AlgopyVerif.Proofs.PowerSeries
import AlgopyVerif.Proofs.Recurrence
import AlgopyVerif.Proofs.SpecialFns
import AlgopyVerif.Proofs.Tape
import AlgopyVerif.Proofs.TapeNatural
import AlgopyVerif.Proofs.Taylor
import AlgopyVerif.Proofs.Tracer
import AlgopyVerif.Props.C01
import AlgopyVerif.Props.C02
import AlgopyVerif.Props.C03
import AlgopyVerif.Props.C04
import AlgopyVerif.Props.C05
import AlgopyVerif.Props.C06
import AlgopyVerif.Props.C07
import AlgopyVerif.Props.C08
import AlgopyVerif.Props.C09
import AlgopyVerif.Props.C10
import AlgopyVerif.Props.C11
import AlgopyVerif.Props.C12
import AlgopyVerif.Props.C13
import AlgopyVerif.Props.C14
import AlgopyVerif.Props.C15
import AlgopyVerif.Props.C16
import AlgopyVerif.Props.C17
import AlgopyVerif.Audit.C01
import AlgopyVerif.Audit.C02
import AlgopyVerif.Audit.C03
import AlgopyVerif.Audit.C04
import AlgopyVerif.Audit.C05
import AlgopyVerif.Audit.C06
import AlgopyVerif.Audit.C07
import AlgopyVerif.Audit.C08
import AlgopyVerif.Audit.C09
import AlgopyVerif.Audit.C10
import AlgopyVerif.Audit.C11
import AlgopyVerif.Audit.C12
import AlgopyVerif.Audit.C13
import AlgopyVerif.Audit.C14
import AlgopyVerif.Audit.C15
import AlgopyVerif.Audit.C16
import AlgopyVerif.Audit.C17
