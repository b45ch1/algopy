import AlgopyVerif.Props.C07
/-! generated by harness/runner.py: axiom audit of every theorem of Props/C07.lean -/
#print axioms AV.C07.dot_is_cauchy_product
#print axioms AV.C07.solve_const_rhs_spec
#print axioms AV.C07.inv_right_inverse
#print axioms AV.C07.solve_spec
#print axioms AV.C07.inv_left_inverse
#print axioms AV.C07.solve_unique
#print axioms AV.C07.det_through_lu
#print axioms AV.C07.logdet_through_lu
#print axioms AV.C07.logdet_through_lu_pos
#print axioms AV.C07.solve_rectangular_spec
#print axioms AV.C07.solve_rectangular_unique
#print axioms AV.C07.solve_rectangular_square
#print axioms AV.C07.expm_pade_evaluation
#print axioms AV.C07.expm_pade_tables_match_exp
#print axioms AV.C07.expm_pade_order_sharp
#print axioms AV.C07.det_fallback_small_sizes
#print axioms AV.C07.det_fallback_every_size
