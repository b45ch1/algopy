import AlgopyVerif.Props.C01
/-! generated by harness/runner.py: axiom audit of every theorem of Props/C01.lean -/
#print axioms AV.C01.exp_taylor
#print axioms AV.C01.sin_taylor
#print axioms AV.C01.cos_taylor
#print axioms AV.C01.log_taylor
#print axioms AV.C01.sqrt_taylor
#print axioms AV.C01.reciprocal_taylor
#print axioms AV.C01.sinh_taylor
#print axioms AV.C01.cosh_taylor
#print axioms AV.C01.tan_taylor
#print axioms AV.C01.tanh_taylor
#print axioms AV.C01.arctan_taylor
#print axioms AV.C01.arcsin_taylor
#print axioms AV.C01.arccos_taylor
#print axioms AV.C01.expm1_taylor
#print axioms AV.C01.log1p_taylor
#print axioms AV.C01.logit_taylor
#print axioms AV.C01.expit_taylor
#print axioms AV.C01.erf_taylor
#print axioms AV.C01.erfi_taylor
#print axioms AV.C01.rpow_taylor
#print axioms AV.C01.zpow_taylor
#print axioms AV.C01.pownat_taylor
#print axioms AV.C01.absolute_taylor
#print axioms AV.C01.sign_taylor
#print axioms AV.C01.minimum_maximum_taylor
#print axioms AV.C01.slow_generic_taylor
#print axioms AV.C01.faa_di_bruno
#print axioms AV.C01.dawsn_taylor
#print axioms AV.C01.erf_dawsn_concrete
#print axioms AV.C01.clip_taylor_inside
#print axioms AV.C01.clip_taylor_outside
#print axioms AV.C01.jet_lemma
#print axioms AV.C01.jet_exp_sin_mul
#print axioms AV.C01.exp_formal
#print axioms AV.C01.log_formal
#print axioms AV.C01.sqrt_formal
#print axioms AV.C01.sincos_formal
#print axioms AV.C01.reciprocal_formal
#print axioms AV.C01.utpm_elementwise
#print axioms AV.C01.utpm_exp_taylor
