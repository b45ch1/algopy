import AlgopyVerif.Props.C02
/-! generated by harness/runner.py: axiom audit of every theorem of Props/C02.lean -/
#print axioms AV.C02.mul_is_cauchy_product
#print axioms AV.C02.div_spec
#print axioms AV.C02.div_unique
#print axioms AV.C02.mul_comm
#print axioms AV.C02.mul_assoc
#print axioms AV.C02.mul_add
#print axioms AV.C02.div_mul_cancel
#print axioms AV.C02.add_coeff
#print axioms AV.C02.sub_coeff
#print axioms AV.C02.mul_taylor
#print axioms AV.C02.div_taylor
#print axioms AV.C02.pow_int_array_entry
#print axioms AV.C02.pow_large_int_exponent
#print axioms AV.C02.opSeries_length
#print axioms AV.C02.utpm_mul_value
#print axioms AV.C02.utpm_div_value
#print axioms AV.C02.utpm_add_sub_value
#print axioms AV.C02.utpm_scalar_mul_div_value
#print axioms AV.C02.utpm_scalar_add_sub_value
#print axioms AV.C02.utpm_ndarray_mul_div_value
#print axioms AV.C02.utpm_ndarray_add_sub_value
#print axioms AV.C02.complex_in_complex_out
#print axioms AV.C02.real_in_real_out
