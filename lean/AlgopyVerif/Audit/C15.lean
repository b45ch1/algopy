import AlgopyVerif.Props.C15
/-! generated by harness/runner.py: axiom audit of every theorem of Props/C15.lean -/
#print axioms AV.C15.multi_indices_complete
#print axioms AV.C15.multi_indices_nodup
#print axioms AV.C15.Gamma_identity_every_N_d
#print axioms AV.C15.Gamma_identity_one_variable
#print axioms AV.C15.Gamma_one_variable_value
#print axioms AV.C15.tensor_reconstruction
#print axioms AV.C15.Gamma_identity_1_1
#print axioms AV.C15.Gamma_identity_1_2
#print axioms AV.C15.Gamma_identity_1_3
#print axioms AV.C15.Gamma_identity_1_4
#print axioms AV.C15.Gamma_identity_1_5
#print axioms AV.C15.Gamma_identity_2_1
#print axioms AV.C15.Gamma_identity_2_2
#print axioms AV.C15.Gamma_identity_2_3
#print axioms AV.C15.Gamma_identity_2_4
#print axioms AV.C15.Gamma_identity_2_5
#print axioms AV.C15.Gamma_identity_3_1
#print axioms AV.C15.Gamma_identity_3_2
#print axioms AV.C15.Gamma_identity_3_3
#print axioms AV.C15.Gamma_identity_4_1
#print axioms AV.C15.Gamma_identity_4_2
#print axioms AV.C15.Gamma_identity_5_1
#print axioms AV.C15.Gamma_identity_5_2
#print axioms AV.C15.Gamma_identity_6_2
#print axioms AV.C15.Gamma_identity_3_4
#print axioms AV.C15.Gamma_identity_4_3
