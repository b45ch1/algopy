import AlgopyVerif.Props.C16
/-! generated by harness/runner.py: axiom audit of every theorem of Props/C16.lean -/
#print axioms AV.C16.exp_nth
#print axioms AV.C16.exp2_nth
#print axioms AV.C16.expm1_nth
#print axioms AV.C16.log_nth
#print axioms AV.C16.logb_nth
#print axioms AV.C16.log1p_nth
#print axioms AV.C16.sqrt_nth
#print axioms AV.C16.square_nth
#print axioms AV.C16.negative_nth
#print axioms AV.C16.reciprocal_nth
#print axioms AV.C16.reciprocal_nth_neg
#print axioms AV.C16.sin_nth
#print axioms AV.C16.cos_nth
#print axioms AV.C16.sinh_nth
#print axioms AV.C16.cosh_nth
#print axioms AV.C16.arctanh_nth
#print axioms AV.C16.polygamma_nth
#print axioms AV.C16.hyperu_nth
#print axioms AV.C16.arctan_nth
#print axioms AV.C16.arcsinh_nth
#print axioms AV.C16.arcsin_nth
#print axioms AV.C16.arccos_nth
#print axioms AV.C16.arccosh_nth
#print axioms AV.C16.erf_like_nth
#print axioms AV.C16.erf_nth
#print axioms AV.C16.erfi_nth
#print axioms AV.C16.step_nth
#print axioms AV.C16.floor_nth
#print axioms AV.C16.ceil_nth
#print axioms AV.C16.sign_nth
#print axioms AV.C16.absolute_nth
#print axioms AV.C16.clip_nth
#print axioms AV.C16.rint_nth
