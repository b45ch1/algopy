import AlgopyVerif.Props.C03
/-! generated by harness/runner.py: axiom audit of every theorem of Props/C03.lean -/
#print axioms AV.C03.reverse_is_adjoint_of_forward
#print axioms AV.C03.reverse_sweep_superposition
#print axioms AV.C03.local_adjoint_unary
#print axioms AV.C03.local_adjoint_add
#print axioms AV.C03.local_adjoint_sub
#print axioms AV.C03.local_adjoint_mul
#print axioms AV.C03.local_adjoint_div
#print axioms AV.C03.local_adjoint_sum
#print axioms AV.C03.local_adjoint_scale
#print axioms AV.C03.local_adjoint_copy
#print axioms AV.C03.local_adjoint_dot
#print axioms AV.C03.write_step_adjoint
#print axioms AV.C03.pullback_exp_is_ring_expr
#print axioms AV.C03.pullback_log_is_ring_expr
#print axioms AV.C03.pullback_div_is_ring_expr
#print axioms AV.C03.gather_scatter_adjoint
#print axioms AV.C03.reduction_adjoint
#print axioms AV.C03.item_assignment_adjoint
#print axioms AV.C03.matrix_dot_adjoint
#print axioms AV.C03.matrix_inv_adjoint
#print axioms AV.C03.matrix_solve_adjoint
#print axioms AV.C03.matrix_trace_adjoint
#print axioms AV.C03.matrix_transpose_adjoint
#print axioms AV.C03.matrix_eigh_tangent
#print axioms AV.C03.matrix_eigh_adjoint
#print axioms AV.C03.matrix_det_adjoint
#print axioms AV.C03.matrix_det_adjoint_every_matrix
