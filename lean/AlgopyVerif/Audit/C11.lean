import AlgopyVerif.Props.C11
/-! generated by harness/runner.py: axiom audit of every theorem of Props/C11.lean -/
#print axioms AV.C11.direction_series
#print axioms AV.C11.elementwise_direction
#print axioms AV.C11.binary_direction
#print axioms AV.C11.reverse_sweep_direction
#print axioms AV.C11.forward_sweep_direction
#print axioms AV.C11.ring_ops_direction_compatible
