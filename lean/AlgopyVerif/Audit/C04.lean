import AlgopyVerif.Props.C04
/-! generated by harness/runner.py: axiom audit of every theorem of Props/C04.lean -/
#print axioms AV.C04.gradient_spec
#print axioms AV.C04.vec_jac_spec
#print axioms AV.C04.jacobian_replicated_layout
#print axioms AV.C04.replicated_index
#print axioms AV.C04.second_order_driver_coefficient
#print axioms AV.C04.hessian_driver_entry
#print axioms AV.C04.second_order_from_jet
