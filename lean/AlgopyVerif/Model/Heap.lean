import AlgopyVerif.Model.Series
/-!
# Coefficient-level imperative semantics of the kernels that run with aliased buffers

A buffer is a `List K` indexed by the coefficient order `d`; a kernel is a loop of writes
`buf[d] := expr(buf, …)`.  Aliasing = the same buffer is read and written.
-/
namespace AV
section
variable {K : Type} [Add K] [Mul K] [Sub K] [Neg K] [Div K] [Zero K] [One K] [NatCast K]

/-- `_mul(x, y, out=y)` (algorithms.py:310-320): for `d = D-1 … 0`: the product array
`x[:d+1] * y[d::-1]` is formed (a temporary), then summed into `y[d]`. -/
def mulStepAliasY (x : List K) (b : List K) (d : Nat) : List K :=
  b.set d (sumRange 0 (d+1) fun k => co x k * co b (d-k))

def mulOutAliasY (x y : List K) : List K :=
  (List.range y.length).reverse.foldl (mulStepAliasY x) y

/-- `_mul(x, y, out=x)`: same loop, the output aliases the *first* operand -/
def mulStepAliasX (y : List K) (b : List K) (d : Nat) : List K :=
  b.set d (sumRange 0 (d+1) fun k => co b k * co y (d-k))

def mulOutAliasX (x y : List K) : List K :=
  (List.range x.length).reverse.foldl (mulStepAliasX y) x

/-- `_mul(x, x, out=x)`: all three are the same buffer -/
def mulStepAliasXY (b : List K) (d : Nat) : List K :=
  b.set d (sumRange 0 (d+1) fun k => co b k * co b (d-k))

def mulOutAliasXY (x : List K) : List K :=
  (List.range x.length).reverse.foldl mulStepAliasXY x

/-- `UTPM.__imul__` with a UTPM right operand (utpm.py:604-608), one direction/element:
for `d = D-1 … 0`: `z[d] *= y[0]`, then for `c < d`: `z[d] += z[c] * y[d-c]`.
`y` is an independent buffer (the repaired code copies `rhs.data` when it may share memory
with `self.data`). -/
def imulStep (y : List K) (z : List K) (d : Nat) : List K :=
  let z1 := z.set d (co z d * co y 0)
  (List.range d).foldl (fun zz c => zz.set d (co zz d + co zz c * co y (d-c))) z1

def imulS (z y : List K) : List K :=
  (List.range z.length).reverse.foldl (imulStep y) z

/-- the loop as it was before the repair when `y` *is* `z` (`x *= x`): reads of `y` see the
partially updated buffer -/
def imulStepSelf (z : List K) (d : Nat) : List K :=
  let z1 := z.set d (co z d * co z 0)
  (List.range d).foldl (fun zz c => zz.set d (co zz d + co zz c * co zz (d-c))) z1

def imulSelfUnrepaired (z : List K) : List K :=
  (List.range z.length).reverse.foldl imulStepSelf z

/-- `_truediv(x, y, out)` / `_itruediv` / `__itruediv__` build the quotient in a temporary and copy
it to the output at the end (algorithms.py:371-392, utpm.py:623-626): aliasing the output with an
operand cannot change what is read. -/
def divViaTemp (x y : List K) : List K := divS x y

end
end AV
