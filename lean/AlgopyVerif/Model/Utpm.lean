import AlgopyVerif.Model.Series
import AlgopyVerif.Model.NdArray
/-!
# L2: UTPM layer — `(D,P)+shape` arrays, element-wise functions, arithmetic with
operand kinds and UTPM-aware broadcasting (`utpm/utpm.py:322-639`,
`utpm/algorithms.py:265-285`).
-/
namespace AV
open NdArray

section
variable {K : Type} [Add K] [Mul K] [Sub K] [Neg K] [Div K] [Zero K] [One K] [NatCast K]

/-- arrays of coefficients default to 0 -/
@[instance_reducible] def inh0 : Inhabited K := ⟨0⟩
attribute [local instance] inh0

def utD (x : NdArray K) : Nat := x.shape.getD 0 0
def utP (x : NdArray K) : Nat := x.shape.getD 1 0
def utShape (x : NdArray K) : List Nat := x.shape.drop 2

/-- the series `(x[0,p,idx], …, x[D-1,p,idx])` -/
def seriesAt (x : NdArray K) (p : Nat) (idx : List Nat) : List K :=
  (List.range (utD x)).map fun d => x.get (d :: p :: idx)

/-- assemble a UTPM array from one series per `(p, idx)` -/
def ofSeries (D P : Nat) (shape : List Nat) (f : Nat → List Nat → List K) : NdArray K :=
  let n := numel shape
  let ser := (Array.range (P * n)).map fun k => f (k / n) (unravel shape (k % n))
  ofFn (D :: P :: shape) fun i =>
    match i with
    | d :: p :: idx => co (ser.getD (p * n + ravel shape idx) []) d
    | _ => 0

/-- element-wise unary function; `leaves` are arrays of shape `P :: shape`
(values NumPy/SciPy returned for the zeroth coefficients) -/
def mapS1 (f : List K → List K → List K) (leaves : List (NdArray K)) (x : NdArray K) : NdArray K :=
  ofSeries (utD x) (utP x) (utShape x) fun p idx =>
    f (leaves.map fun l => l.get (p :: idx)) (seriesAt x p idx)

/-- UTPM-aware broadcasting (algorithms.py:265-285): the coefficient shapes broadcast
NumPy-style and so do the leading `(D,P)` axes. -/
def utBroadcastShape (sx sy : List Nat) : Option (List Nat) := do
  let tail ← broadcastShapes (sx.drop 2) (sy.drop 2)
  let head ← broadcastShapes (sx.take 2) (sy.take 2)
  pure (head ++ tail)

/-- position in an operand of shape `s = (D',P')+shape'` for result index `d::p::idx` -/
def utBidx (s : List Nat) (i : List Nat) : List Nat :=
  match i, s with
  | d :: p :: idx, sd :: sp :: ss =>
    (if sd = 1 then 0 else d) :: (if sp = 1 then 0 else p) :: bidx ss idx
  | _, _ => []

def utBroadcastTo (x : NdArray K) (shape : List Nat) : NdArray K :=
  ofFn shape fun i => x.get (utBidx x.shape i)

/-- element-wise binary series function on two UTPM arrays after UTPM broadcasting -/
def zipS2 (f : List K → List K → List K) (x y : NdArray K) : Option (NdArray K) := do
  let s ← utBroadcastShape x.shape y.shape
  let xb := utBroadcastTo x s
  let yb := utBroadcastTo y s
  pure (ofSeries (s.getD 0 0) (s.getD 1 0) (s.drop 2) fun p idx =>
    f (seriesAt xb p idx) (seriesAt yb p idx))

/-- a constant array `c` seen as `c.reshape((1,1)+c.shape)` (utpm.py:343-347) -/
def constAsUt (c : NdArray K) : NdArray K := ⟨1 :: 1 :: c.shape, c.data⟩

/-- `x + c`, `x - c` for an ndarray `c`: only the zeroth coefficient changes (utpm.py:343-352) -/
def addConstArr (sub : Bool) (x c : NdArray K) : Option (NdArray K) := do
  let cu := constAsUt c
  let s ← utBroadcastShape x.shape cu.shape
  let xb := utBroadcastTo x s
  let cb := utBroadcastTo cu s
  pure (ofFn s fun i =>
    match i with
    | d :: _ => if d = 0 then (if sub then xb.get i - cb.get i else xb.get i + cb.get i) else xb.get i
    | _ => 0)

/-- `x * c`, `x / c` for an ndarray `c`: every coefficient is scaled (utpm.py:409-414,439-444) -/
def mulConstArr (div : Bool) (x c : NdArray K) : Option (NdArray K) := do
  let cu := constAsUt c
  let s ← utBroadcastShape x.shape cu.shape
  let xb := utBroadcastTo x s
  let cb := utBroadcastTo cu s
  pure (ofFn s fun i => if div then xb.get i / cb.get i else xb.get i * cb.get i)

/-- scalar on the right: `x + r`, `x - r`, `x * r`, `x / r` (utpm.py:326-331,362-367,397-398,426-427) -/
def scalarOp (op : String) (x : NdArray K) (r : K) : NdArray K :=
  ofFn x.shape fun i =>
    match op, i with
    | "add", d :: _ => if d = 0 then x.get i + r else x.get i
    | "sub", d :: _ => if d = 0 then x.get i - r else x.get i
    | "mul", _ => x.get i * r
    | "div", _ => x.get i / r
    | _, _ => x.get i

def negU (x : NdArray K) : NdArray K := x.map fun a => -a

/-- UTPM ∘ UTPM -/
def utBin (op : String) (x y : NdArray K) : Option (NdArray K) :=
  match op with
  | "add" => zipS2 addS x y
  | "sub" => zipS2 subS x y
  | "mul" => zipS2 mulS x y
  | "div" => zipS2 divS x y
  | _ => none

/-- `__rtruediv__` as the *property* demands it for a constant array/scalar numerator:
`c / x` with `c` a degree-0 polynomial broadcast NumPy-style against `x`. -/
def rdivConst (c : NdArray K) (x : NdArray K) : Option (NdArray K) := do
  let cu := constAsUt c
  let s ← utBroadcastShape x.shape cu.shape
  let D := s.getD 0 0
  let cfull : NdArray K := ofFn (D :: 1 :: cu.shape.drop 2) fun i =>
    match i with
    | d :: _ :: idx => if d = 0 then c.get idx else 0
    | _ => 0
  zipS2 divS cfull x

end
end AV

namespace AV
open NdArray
section
variable {K : Type} [Add K] [Mul K] [Sub K] [Neg K] [Div K] [Zero K] [One K] [NatCast K]
attribute [local instance] inh0

/-- comparison operators (utpm.py:1583-1601): `numpy.all` of the comparison of the zeroth
coefficients over all directions and elements (same-shape operands) -/
def cmpAll (r : K → K → Bool) (x y : NdArray K) : Bool :=
  let s := utP x :: utShape x
  (List.range (numel s)).all fun k => r (x.get (0 :: unravel s k)) (y.get (0 :: unravel s k))

end
end AV
