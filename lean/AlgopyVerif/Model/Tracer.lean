/-!
# L3: the tracer as a state machine (`algopy/tracer/tracer.py`)

* recording: `CGraph.append`, `Function.create`, `Function.get_ID`, `trace_on/off`
  (tracer.py:70-87, 782-845);
* in-place writes on a cell heap with the save / restore / re-apply discipline of
  `Function.pushforward` (save on every evaluation), `Function.pullback` (restore) and
  `CGraph.pullback` (re-apply at the end) — tracer.py:877-894, 985-990, 166-245 after the repairs.
-/
namespace AV.Tracer

/-- an argument of a node: another node (by ID) or a constant that is not traced -/
inductive Arg
  | node (id : Nat)
  | const (c : Nat)
deriving DecidableEq, Repr

structure Node where
  func : Nat            -- name of the recorded callable (opaque)
  args : List Arg
  id   : Nat
deriving Repr

/-- `CGraph` + the class attribute `Function.cgraph` (is this graph the active one?) -/
structure TState where
  nodes   : List Node := []      -- functionList
  count   : Nat := 0             -- functionCount
  tracing : Bool := true         -- Function.cgraph is this graph
deriving Repr

/-- operations the user / the overloads perform -/
inductive Op
  | apply (func : Nat) (args : List Arg)    -- any overloaded operation on Function operands
  | traceOff
  | traceOn

/-- `Function.create`: when a graph is active the node gets `ID = functionCount` and is appended -/
def step (s : TState) : Op → TState
  | .apply f args =>
    if s.tracing then { s with nodes := s.nodes ++ [⟨f, args, s.count⟩], count := s.count + 1 } else s
  | .traceOff => { s with tracing := false }
  | .traceOn => { s with tracing := true }

def run (ops : List Op) (s : TState) : TState := ops.foldl step s

/-- arguments refer to earlier nodes only (what the overloads can produce: operands exist already) -/
def Op.ArgsBelow (n : Nat) : Op → Prop
  | .apply _ args => ∀ a ∈ args, match a with | .node i => i < n | .const _ => True
  | _ => True

/-- the recording invariant -/
def Inv (s : TState) : Prop :=
  s.count = s.nodes.length ∧
  (∀ i (h : i < s.nodes.length), (s.nodes[i]).id = i) ∧
  (∀ nd ∈ s.nodes, ∀ a ∈ nd.args, match a with | .node i => i < nd.id | .const _ => True)

/-! ## in-place writes on a heap of cells -/
abbrev Heap (V : Type) := Nat → V

def upd {V} (h : Heap V) (c : Nat) (v : V) : Heap V := fun i => if i = c then v else h i

/-- forward execution of the in-place writes `cell d := cell s` in recording order -/
def wfwd {V} : List (Nat × Nat) → Heap V → Heap V
  | [], h => h
  | (d, s) :: ws, h => wfwd ws (upd h d (h s))

/-- the contents saved by each write on *this* evaluation (`Function.pushforward`, repaired) -/
def saved {V} : List (Nat × Nat) → Heap V → List V
  | [], _ => []
  | (d, s) :: ws, h => h d :: saved ws (upd h d (h s))

/-- the restores done by the reverse sweep (last write first): `args[0].x[sl] = store` -/
def undoAll {V} : List ((Nat × Nat) × V) → Heap V → Heap V
  | [], H => H
  | ((d, _), v) :: rest, H => upd (undoAll rest H) d v

/-- one reverse sweep as far as forward values are concerned: restore everything, then re-apply -/
def sweepValues {V} (ws : List (Nat × Nat)) (stores : List V) (H : Heap V) : Heap V :=
  wfwd ws (undoAll (ws.zip stores) H)

/-! ## general in-place writes and evaluations of a graph with constant work arrays

`cell d := g (current heap)` — e.g. the accumulation `acc += x` is `g h = h acc + h x`.  The heap holds the cells of the
*constant* nodes of the graph (work arrays wrapped by hand, whose storage no recorded node re-creates) and of the inputs. -/
structure GWrite (V : Type) where
  d : Nat
  g : Heap V → V

def gfwd {V} : List (GWrite V) → Heap V → Heap V
  | [], h => h
  | w :: ws, h => gfwd ws (upd h w.d (w.g h))

/-- the contents each write saves before it overwrites its cell (`Function.pushforward`: `setitem = (idx, old.copy())`) -/
def gsaved {V} : List (GWrite V) → Heap V → List (Nat × V)
  | [], _ => []
  | w :: ws, h => (w.d, h w.d) :: gsaved ws (upd h w.d (w.g h))

/-- the restores, last write first (`CGraph.pushforward`, repaired: `f.args[0].x[idx] = saved` over the reversed list) -/
def gundo {V} : List (Nat × V) → Heap V → Heap V
  | [], H => H
  | (d, v) :: rest, H => upd (gundo rest H) d v

/-- set the input cells (`f.args[0].x = x_list[nf]`): the cells listed in `ins` take the new values -/
def setIn {V} (ins : List (Nat × V)) (h : Heap V) : Heap V :=
  ins.foldl (fun H iv => upd H iv.1 iv.2) h

/-- one evaluation of the repaired `CGraph.pushforward`: undo the previous evaluation's writes, set the inputs, run the writes.
State = (heap, what the writes saved). -/
def evalUndo {V} (ws : List (GWrite V)) (st : Heap V × List (Nat × V)) (ins : List (Nat × V)) : Heap V × List (Nat × V) :=
  let h := setIn ins (gundo st.2 st.1)
  (gfwd ws h, gsaved ws h)

/-- the old behaviour: no undo -/
def evalNoUndo {V} (ws : List (GWrite V)) (H : Heap V) (ins : List (Nat × V)) : Heap V :=
  gfwd ws (setIn ins H)

/-- executable instance for the driver: accumulating writes `cell d += cell s` over the rationals -/
def accWrites (ws : List (Nat × Nat)) : List (GWrite Rat) := ws.map fun p => ⟨p.1, fun h => h p.1 + h p.2⟩

/-- the value of cell `out` after each of a sequence of evaluations (inputs per evaluation), starting from the state the
recording left behind (the recording ran the writes once on `h0` with the recording inputs) -/
def accHistory (undo : Bool) (ws : List (Nat × Nat)) (h0 : List Rat) (rec : List (Nat × Rat)) (calls : List (List (Nat × Rat))) (out : Nat) : List Rat :=
  let H0 : Heap Rat := fun i => h0.getD i 0
  let w := accWrites ws
  let start := setIn rec H0
  let st0 : Heap Rat × List (Nat × Rat) := (gfwd w start, gsaved w start)
  if undo then
    (calls.foldl (fun (acc : (Heap Rat × List (Nat × Rat)) × List Rat) ins =>
      let st := evalUndo w acc.1 ins
      (st, acc.2 ++ [st.1 out])) (st0, [])).2
  else
    (calls.foldl (fun (acc : Heap Rat × List Rat) ins =>
      let H := evalNoUndo w acc.1 ins
      (H, acc.2 ++ [H out])) (st0.1, [])).2

end AV.Tracer
