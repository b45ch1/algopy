/-!
# Padé approximants of the matrix exponential (`algopy/linalg/compound.py`)

`expm_pade(A, q)` evaluates `U, V = _expm_pade<q>(A, ident)` and returns `solve(-U + V, U + V)`:
`U = A · (Σ_k b_{2k+1} A^{2k})`, `V = Σ_k b_{2k} A^{2k}` with the coefficient tables `b` below
(compound.py:136-196).  The scalar (commutative) model: `padeU q x`, `padeV q x` over `Rat`, mirroring the
even/odd split and the powers `A2, A4, A6, A8` the code forms.  `expm_higham_2005` picks the order from
the 1-norm (`highamOrder`, thresholds of compound.py:101-120).
-/
namespace AV

/-- the coefficient tables `b` of `_expm_pade3/5/7/9/13` -/
def padeB : Nat → List Rat
  | 3 => [120, 60, 12, 1]
  | 5 => [30240, 15120, 3360, 420, 30, 1]
  | 7 => [17297280, 8648640, 1995840, 277200, 25200, 1512, 56, 1]
  | 9 => [17643225600, 8821612800, 2075673600, 302702400, 30270240, 2162160, 110880, 3960, 90, 1]
  | 13 => [64764752532480000, 32382376266240000, 7771770303897600, 1187353796428800, 129060195264000,
           10559470521600, 670442572800, 33522128640, 1323241920, 40840800, 960960, 16380, 182, 1]
  | _ => []

def bq (q k : Nat) : Rat := (padeB q).getD k 0

/-- `U` of `_expm_pade<q>` for a scalar argument (the code's grouping of the powers) -/
def padeU (q : Nat) (x : Rat) : Rat :=
  let a2 := x * x
  let a4 := a2 * a2
  let a6 := a2 * a4
  let a8 := a2 * a6
  match q with
  | 3 => x * (bq 3 3 * a2 + bq 3 1)
  | 5 => x * (bq 5 5 * a4 + bq 5 3 * a2 + bq 5 1)
  | 7 => x * (bq 7 7 * a6 + bq 7 5 * a4 + bq 7 3 * a2 + bq 7 1)
  | 9 => x * (bq 9 9 * a8 + bq 9 7 * a6 + bq 9 5 * a4 + bq 9 3 * a2 + bq 9 1)
  | 13 => x * (a6 * (bq 13 13 * a6 + bq 13 11 * a4 + bq 13 9 * a2) + (bq 13 7 * a6 + bq 13 5 * a4 + bq 13 3 * a2 + bq 13 1))
  | _ => 0

/-- `V` of `_expm_pade<q>` -/
def padeV (q : Nat) (x : Rat) : Rat :=
  let a2 := x * x
  let a4 := a2 * a2
  let a6 := a2 * a4
  let a8 := a2 * a6
  match q with
  | 3 => bq 3 2 * a2 + bq 3 0
  | 5 => bq 5 4 * a4 + bq 5 2 * a2 + bq 5 0
  | 7 => bq 7 6 * a6 + bq 7 4 * a4 + bq 7 2 * a2 + bq 7 0
  | 9 => bq 9 8 * a8 + bq 9 6 * a6 + bq 9 4 * a4 + bq 9 2 * a2 + bq 9 0
  | 13 => a6 * (bq 13 12 * a6 + bq 13 10 * a4 + bq 13 8 * a2) + (bq 13 6 * a6 + bq 13 4 * a4 + bq 13 2 * a2 + bq 13 0)
  | _ => 0

def factQ : Nat → Rat
  | 0 => 1
  | n + 1 => (n + 1 : Nat) * factQ n

/-- coefficient `m` of the formal power series `N(x) − D(x)·exp(x)` with `N = Σ b_k x^k` (`= U + V`) and
`D = Σ b_k (−x)^k` (`= V − U`): the approximant `N/D` agrees with `exp` up to order `2q` iff the defect vanishes for `m ≤ 2q` -/
def padeDefect (q m : Nat) : Rat :=
  bq q m - (List.range (m + 1)).foldl (fun s k => s + (if k % 2 = 0 then bq q k else - bq q k) / factQ (m - k)) 0

/-- the order `expm_higham_2005` picks for a 1-norm given as a rational (`none`: the scaling-and-squaring branch) -/
def highamOrder (norm1 : Rat) : Option Nat :=
  if norm1 < 1495585217958292 / 100000000000000000 then some 3
  else if norm1 < 2539398330063230 / 10000000000000000 then some 5
  else if norm1 < 9504178996162932 / 10000000000000000 then some 7
  else if norm1 < 2097847961257068 / 1000000000000000 then some 9
  else none

end AV
