import AlgopyVerif.Model.Series
import AlgopyVerif.Model.NdArray
import AlgopyVerif.Model.Utpm
/-!
# Conversions between representations (`algopy/utils.py`, `UTPM.shift/as_utpm`)
-/
namespace AV
open NdArray
section
variable {K : Type} [Add K] [Mul K] [Sub K] [Neg K] [Div K] [Zero K] [One K] [NatCast K]
attribute [local instance] inh0

/-- `UTPM.shift(s)` on one series (utpm.py:1871-1896, after the repair of `s = 0`):
`s > 0`: `[0,…,0,x_0,…,x_{D-1-s}]`; `s ≤ 0`: `[x_{-s},…,x_{D-1},0,…,0]`. -/
def shiftS (s : Int) (x : List K) : List K :=
  let D := x.length
  if s > 0 then
    (List.range D).map fun d => if d < s.toNat then 0 else co x (d - s.toNat)
  else
    (List.range D).map fun d => if d + (-s).toNat < D then co x (d + (-s).toNat) else 0

/-- the pairs `(row, col)` with `row ≤ col < N` in the order `symvec`/`vecsym` walk them -/
def triPairs (N : Nat) : List (Nat × Nat) :=
  (List.range N).flatMap fun r => (List.range (N - r)).map fun k => (r, r + k)

/-- `utils.symvec(A, UPLO)` for a matrix given as a function -/
def symvecF (N : Nat) (uplo : Char) (A : Nat → Nat → K) : List K :=
  (triPairs N).map fun (r, c) =>
    if uplo = 'F' then (A r c + A c r) / nat 2      -- 0.5 * (A[row,col] + A[col,row])
    else if uplo = 'L' then A c r                    -- A[m,n], m ≥ n
    else A r c                                       -- 'U': A[n,m]

/-- `utils.vecsym(v)` : entry `(r, c)` is `v[count]` of the pair `(min r c, max r c)` -/
def vecsymF (N : Nat) (v : List K) (r c : Nat) : K :=
  co v ((triPairs N).idxOf (min r c, max r c))

/-- `utils.piv2mat`'s index vector: `swap = arange(N)`, then for `i = 0..N-1` exchange
`swap[i]` and `swap[piv[i]]` -/
def pivSwap (piv : List Nat) : List Nat :=
  (List.range piv.length).foldl (fun sw i =>
    let a := sw.getD i 0
    let b := sw.getD (piv.getD i 0) 0
    (sw.set i b).set (piv.getD i 0) a) (List.range piv.length)

/-- `numpy.eye(N)[:, swap]` : `W[i][j] = 1` iff `i = swap[j]` -/
def piv2matF (piv : List Nat) (i j : Nat) : Nat := if i = (pivSwap piv).getD j 0 then 1 else 0

/-- `utils.piv2det` -/
def piv2detF (piv : List Nat) : Int :=
  if ((List.range piv.length).filter fun i => piv.getD i 0 ≠ i).length % 2 = 0 then 1 else -1

/-- `utils.base_and_dirs2utpm(x, V)`: `x.shape = s`, `V.shape = s ++ [P, D]` → `(D+1, P) + s` -/
def baseDirs2utpm (x V : NdArray K) : NdArray K :=
  let s := x.shape
  let P := V.shape.getD s.length 0
  let D := V.shape.getD (s.length + 1) 0
  ofFn ((D+1) :: P :: s) fun i =>
    match i with
    | d :: p :: idx => if d = 0 then x.get idx else V.get (idx ++ [p, d - 1])
    | _ => 0

/-- `utils.utpm2base_and_dirs(u)` -/
def utpm2baseDirs (u : NdArray K) : NdArray K × NdArray K :=
  let D := utD u - 1
  let P := utP u
  let s := utShape u
  (ofFn s fun idx => u.get (0 :: 0 :: idx),
   ofFn (s ++ [P, D]) fun i =>
     let idx := i.take s.length
     let p := i.getD s.length 0
     let d := i.getD (s.length + 1) 0
     u.get ((d + 1) :: p :: idx))

/-- `utils.utpm2dirs(u)`: transpose to `s ++ [P, D]` -/
def utpm2dirs (u : NdArray K) : NdArray K :=
  let s := utShape u
  ofFn (s ++ [utP u, utD u]) fun i =>
    u.get (i.getD (s.length + 1) 0 :: i.getD s.length 0 :: i.take s.length)

/-- `UTPM.as_utpm` / `utils.ndarray2utpm` on a container of shape `outer` whose `n = Π outer` elements are polynomials with the
same coefficient shape `(D, P) + e`, given stacked as one array `X` of shape `(n, D, P) + e` (row-major order of the container):
the result has shape `(D, P) + outer + e` and `out[d, p, o…, e…] = X[ravel o, d, p, e…]` -/
def containerToUtpm (outer : List Nat) (X : NdArray K) : NdArray K :=
  let D := X.shape.getD 1 0
  let P := X.shape.getD 2 0
  let e := X.shape.drop 3
  ofFn (D :: P :: (outer ++ e)) fun i =>
    match i with
    | d :: p :: rest => X.get (ravel outer (rest.take outer.length) :: d :: p :: rest.drop outer.length)
    | _ => 0

end
end AV
