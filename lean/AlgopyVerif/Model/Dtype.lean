/-!
# dtype calculus of the arithmetic operators (`utpm/utpm.py:322-639`), branch by branch
-/
namespace AV

inductive DT | i64 | f64 | c128
deriving DecidableEq, Repr

/-- `numpy.promote_types` restricted to the three dtypes that occur -/
def DT.promote : DT → DT → DT
  | .c128, _ => .c128
  | _, .c128 => .c128
  | .f64, _ => .f64
  | _, .f64 => .f64
  | .i64, .i64 => .i64

/-- kinds of the non-UTPM operand -/
inductive OKind
  | utpm (dt : DT) | pyint | pyfloat | pycomplex | npscalar (dt : DT) | ndarray (dt : DT)
deriving DecidableEq, Repr

def OKind.isComplex : OKind → Bool
  | .utpm .c128 | .pycomplex | .npscalar .c128 | .ndarray .c128 => true
  | _ => false

/-- dtype `type(rhs)` maps to in `numpy.promote_types(self.data.dtype, type(rhs))` -/
def OKind.asDT : OKind → DT
  | .utpm dt | .npscalar dt | .ndarray dt => dt
  | .pyint => .i64
  | .pyfloat => .f64
  | .pycomplex => .c128

/-- NumPy's value-independent ("weak" Python scalar) promotion in `self.data * rhs`, `self.data / rhs` -/
def weakPromote (self : DT) : OKind → DT
  | .pyint => self
  | .pyfloat => DT.promote self .f64
  | .pycomplex => .c128
  | k => DT.promote self k.asDT

inductive AOp | add | sub | mul | div
deriving DecidableEq, Repr

/-- true division never returns an integer array -/
def divDT (d : DT) : DT := match d with | .i64 => .f64 | d => d

/-- result dtype of `x op other` / `other op x` (x a UTPM with dtype `self`), as the code computes it:
scalar `+ -`: `promote_types(self, type(rhs))`; scalar `* /`: NumPy on the data array; ndarray:
`promote_types` / NumPy; UTPM: `promote_types`; reflected `/` (after the fix of `__rtruediv__`):
numerator buffer of dtype `promote_types(self, rhs)`, then UTPM/UTPM. -/
def resultDT (op : AOp) (self : DT) (other : OKind) (reflected : Bool) : DT :=
  match op, other, reflected with
  | .add, k, _ | .sub, k, _ => DT.promote self k.asDT
  | .mul, .utpm dt, _ => DT.promote self dt
  | .mul, k, _ => weakPromote self k
  | .div, .utpm dt, _ => DT.promote self dt
  | .div, k, false => divDT (weakPromote self k)
  | .div, k, true => DT.promote (DT.promote self k.asDT) self

end AV
