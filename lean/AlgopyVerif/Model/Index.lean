import AlgopyVerif.Model.NdArray
/-!
# Basic indexing of NumPy as an index map (ints, negative ints, slices with steps,
Ellipsis, newaxis, tuples) — `UTPM.__getitem__/__setitem__` prepend `(:, :)` to the index
(utpm.py:133-153).
-/
namespace AV
open NdArray

inductive Idx
  | int (i : Int)
  | slice (lo hi step : Option Int)
  | ellipsis
  | newaxis
deriving Repr, DecidableEq

/-- `slice(lo, hi, step).indices(n)` as `(start, step, count)`; `none` for step 0 -/
def sliceIndices (n : Nat) (lo hi step : Option Int) : Option (Int × Int × Nat) :=
  let st := step.getD 1
  let N : Int := n
  if st = 0 then none
  else if st > 0 then
    let clamp (v : Int) : Int := if v < 0 then (if v + N < 0 then 0 else v + N) else (if v > N then N else v)
    let start := match lo with | none => 0 | some v => clamp v
    let stop := match hi with | none => N | some v => clamp v
    let cnt := if stop > start then ((stop - start + st - 1) / st).toNat else 0
    some (start, st, cnt)
  else
    let clamp (v : Int) : Int := if v < 0 then (if v + N < 0 then -1 else v + N) else (if v ≥ N then N - 1 else v)
    let start := match lo with | none => N - 1 | some v => clamp v
    let stop := match hi with | none => -1 | some v => clamp v
    let cnt := if start > stop then ((start - stop + (-st) - 1) / (-st)).toNat else 0
    some (start, st, cnt)

def Idx.consuming : Idx → Bool
  | .int _ => true
  | .slice _ _ _ => true
  | _ => false

def Idx.isEllipsis : Idx → Bool
  | .ellipsis => true
  | _ => false

def nConsuming (idx : List Idx) : Nat := (idx.filter Idx.consuming).length
def nEllipsis (idx : List Idx) : Nat := (idx.filter Idx.isEllipsis).length

/-- the full slice `:` -/
def fullSl : Idx := Idx.slice none none none

def fillEllipsis (fill : List Idx) : List Idx → List Idx
  | [] => []
  | .ellipsis :: r => fill ++ fillEllipsis fill r
  | i :: r => i :: fillEllipsis fill r

/-- expand `Ellipsis` (at most one) to full slices so that exactly `ndim` axes are consumed;
missing trailing axes get full slices -/
def expandEllipsis (ndim : Nat) (idx : List Idx) : Option (List Idx) :=
  if nEllipsis idx > 1 ∨ nConsuming idx > ndim then none else
  let fill := List.replicate (ndim - nConsuming idx) fullSl
  if nEllipsis idx = 1 then some (fillEllipsis fill idx) else some (idx ++ fill)

/-- one axis of the result: either a fixed source coordinate (int index, no result axis),
a strided run (slice) or a new axis of length 1 -/
inductive AxisMap
  | fixed (src : Nat)                       -- int index: source coordinate
  | run (start step : Int) (count : Nat)    -- slice: result axis of length `count`
  | newax                                   -- None: result axis of length 1, consumes nothing
deriving Repr

def planAxes : List Nat → List Idx → Option (List AxisMap)
  | [], [] => some []
  | shape, .newaxis :: rest => do
    let r ← planAxes shape rest
    pure (.newax :: r)
  | n :: shape, .int i :: rest => do
    let N : Int := n
    let j := if i < 0 then i + N else i
    if j < 0 ∨ j ≥ N then none else
    let r ← planAxes shape rest
    pure (.fixed j.toNat :: r)
  | n :: shape, .slice lo hi st :: rest => do
    let (start, step, cnt) ← sliceIndices n lo hi st
    let r ← planAxes shape rest
    pure (.run start step cnt :: r)
  | _, _ => none

def planShape (p : List AxisMap) : List Nat :=
  p.filterMap fun a => match a with | .fixed _ => none | .run _ _ c => some c | .newax => some 1

/-- source multi-index of a result multi-index -/
def planSrc : List AxisMap → List Nat → List Nat
  | [], _ => []
  | .fixed s :: rest, j => s :: planSrc rest j
  | .run start step _ :: rest, j :: js => (start + step * (j : Int)).toNat :: planSrc rest js
  | .newax :: rest, _ :: js => planSrc rest js
  | _, _ => []

/-- `a[idx]` for basic indexing: result shape and the index map into `a` -/
def getitemMap (shape : List Nat) (idx : List Idx) : Option (List Nat × (List Nat → List Nat)) := do
  let idx' ← expandEllipsis shape.length idx
  let plan ← planAxes shape idx'
  pure (planShape plan, planSrc plan)

def getitem {α} [Inhabited α] (a : NdArray α) (idx : List Idx) : Option (NdArray α) := do
  let (s, m) ← getitemMap a.shape idx
  pure (ofFn s fun j => a.get (m j))

/-- `UTPM.__getitem__`: `data[(slice(None), slice(None)) + sl]` -/
def utGetitem {α} [Inhabited α] (x : NdArray α) (idx : List Idx) : Option (NdArray α) :=
  getitem x (fullSl :: fullSl :: idx)

/-- `numpy.sum(a, axis)` for a normalised axis -/
def sumAxis {α} [Inhabited α] [Add α] [Zero α] (a : NdArray α) (axis : Nat) : NdArray α :=
  let n := a.shape.getD axis 1
  let s := a.shape.eraseIdx axis
  ofFn s fun j => (List.range n).foldl (fun acc k => acc + a.get (j.take axis ++ [k] ++ j.drop axis)) 0

/-- `UTPM.sum(axis)` (utpm.py:1384-1399): negative axes count from the end of `data`, others are shifted by 2 -/
def utSumAxis {α} [Inhabited α] [Add α] [Zero α] (x : NdArray α) (axis : Int) : NdArray α :=
  let a : Nat := if axis < 0 then ((x.shape.length : Int) + axis).toNat else axis.toNat + 2
  sumAxis x a

/-! ## item assignment -/

/-- every multi-index of a shape, in row-major order -/
def allIdx (s : List Nat) : List (List Nat) := (List.range (numel s)).map (unravel s)

/-- `a[idx] = …` for basic indexing, with the assigned value given per *result* index `j`:
cell `i` of `a` receives `val j` for the last selected `j` whose source position is `i`
(for basic indexing the position map is injective, so there is exactly one), all other cells keep their value -/
def setitemWith {α} [Inhabited α] (a : NdArray α) (idx : List Idx) (val : List Nat → α) : Option (NdArray α) := do
  let (s, m) ← getitemMap a.shape idx
  pure (ofFn a.shape fun i =>
    match (allIdx s).reverse.find? (fun j => m j == i) with
    | some j => val j
    | none => a.get i)

/-- `UTPM.__setitem__` with a UTPM right-hand side: `data[(:, :) + idx] = rhs.data` after UTPM-aware broadcasting
of the coefficient shape of `rhs` against the selection -/
def utSetitem {α} [Inhabited α] (x : NdArray α) (idx : List Idx) (v : NdArray α) : Option (NdArray α) :=
  setitemWith x (fullSl :: fullSl :: idx) fun dpj =>
    match dpj with
    | d :: p :: j => v.get (d :: p :: bidx (v.shape.drop 2) j)
    | _ => default

/-- `UTPM.__setitem__` with a plain array / scalar `c`: the zeroth coefficient of the selected cells becomes `c`
(broadcast), all their higher coefficients are cleared -/
def utSetitemConst {α} [Inhabited α] [Zero α] (x : NdArray α) (idx : List Idx) (c : NdArray α) : Option (NdArray α) :=
  setitemWith x (fullSl :: fullSl :: idx) fun dpj =>
    match dpj with
    | d :: _ :: j => if d = 0 then c.get (bidx c.shape j) else 0
    | _ => default

end AV
