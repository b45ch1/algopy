import AlgopyVerif.Model.Series
/-!
# Series-level pullback kernels (`_pb_*` of `utpm/algorithms.py`, `pb_*` of `utpm/utpm.py`)

Every function returns the *new* adjoint buffer(s) of the argument(s): `out += …` of the code.
`x, y, z` are forward values, `…bar` adjoints; all are series of the same length.
-/
namespace AV
section
variable {K : Type} [Add K] [Mul K] [Sub K] [Neg K] [Div K] [Zero K] [One K] [NatCast K]

/-- algorithms.py:357-368 `_amul` : `z += x * y` -/
def amulS (z x y : List K) : List K := addS z (mulS x y)

/-- `pb_add` (same shapes): `xbar += zbar`, `ybar += zbar` -/
def pbAdd (zbar xbar ybar : List K) : List K × List K := (addS xbar zbar, addS ybar zbar)
/-- `pb_sub`: `xbar += zbar`, `ybar -= zbar` -/
def pbSub (zbar xbar ybar : List K) : List K × List K := (addS xbar zbar, subS ybar zbar)
/-- `pb_mul`: `xbar += zbar * y`, `ybar += zbar * x` -/
def pbMul (zbar x y xbar ybar : List K) : List K × List K :=
  (addS xbar (mulS zbar y), addS ybar (mulS zbar x))
/-- `pb_truediv` (utpm.py:2777-2800): `tmp = zbar / y; xbar += tmp; ybar -= tmp * z` -/
def pbDiv (zbar y z xbar ybar : List K) : List K × List K :=
  let tmp := divS zbar y
  (addS xbar tmp, subS ybar (mulS tmp z))
/-- `pb_neg`: `xbar -= ybar` -/
def pbNeg (ybar xbar : List K) : List K := subS xbar ybar

/-- `_pb_exp`: `xbar += ybar * y` -/
def pbExp (ybar y xbar : List K) : List K := amulS xbar ybar y
/-- `_pb_log`: `xbar += ybar / x` -/
def pbLog (ybar x xbar : List K) : List K := addS xbar (divS ybar x)
/-- `_pb_sqrt`: `tmp = ybar / y; tmp /= 2; xbar += tmp` -/
def pbSqrt (ybar y xbar : List K) : List K := addS xbar ((divS ybar y).map fun a => a / nat 2)
/-- `_pb_square`: `xbar += ybar * (2 x)` -/
def pbSquare (ybar x xbar : List K) : List K := amulS xbar ybar (x.map fun a => a * nat 2)
/-- `_pb_reciprocal`: `xbar += ybar * (-(1 / x²))` -/
def pbReciprocal (ybar x xbar : List K) : List K := amulS xbar ybar (negS (recipS (squareS x)))
/-- `_pb_negative`: `xbar += ybar * (-1)` -/
def pbNegative (ybar xbar : List K) : List K := amulS xbar ybar (constS (-1) ybar.length)
/-- `_pb_sign`: `xbar += ybar * 0` -/
def pbSign (ybar xbar : List K) : List K := amulS xbar ybar (constS 0 ybar.length)
/-- `_pb_absolute`: `xbar += ybar * sign(x_0)` (constant polynomial) -/
def pbAbsolute (sgn0 : K) (ybar xbar : List K) : List K := amulS xbar ybar (constS sgn0 ybar.length)
/-- `_pb_pow_real`, `type(r) == int and r > 0`: `xbar += ybar * (r x^{r-1})` (repaired code: `r ≥ 0`) -/
def pbPowNat (r : Nat) (ybar x xbar : List K) : List K :=
  if r = 0 then xbar else addS xbar (mulS ybar ((powNatS (r-1) x).map fun a => a * nat r))
/-- `_pb_pow_real`, general branch: `xbar += r * (ybar * (y / x))` -/
def pbPowReal (r : K) (ybar x y xbar : List K) : List K :=
  addS xbar ((mulS ybar (divS y x)).map fun a => a * r)
/-- `pb_sin` (utpm.py:760-771): `c = cos(x)` recomputed, `xbar += sbar * c` -/
def pbSin (s0 c0 : K) (sbar x xbar : List K) : List K := amulS xbar sbar (sincosS s0 c0 x).2
/-- `pb_cos`: `xbar += cbar * (-s)` -/
def pbCos (s0 c0 : K) (cbar x xbar : List K) : List K := amulS xbar cbar (negS (sincosS s0 c0 x).1)
/-- `pb_tan` (repaired `_pb_tansec`, `zbar = 0`): `z = (1/cos x)²`, `xbar += ybar * z` -/
def pbTan (s0 c0 : K) (ybar x xbar : List K) : List K :=
  let rc := recipS (sincosS s0 c0 x).2
  amulS xbar (addS (mulS (constS 0 ybar.length) ybar) ybar) (mulS rc rc)
/-- `_pb_expm1`: `xbar += ybar * exp(x)` -/
def pbExpm1 (e0 : K) (ybar x xbar : List K) : List K := amulS xbar ybar (expS e0 x)
/-- `_pb_log1p`: `xbar += ybar / (x + 1)` -/
def pbLog1p (ybar x xbar : List K) : List K := addS xbar (divS ybar (plusConstS x 1))
/-- `_pb_logit`: `xbar += ybar * 1/(x - x²)` -/
def pbLogit (ybar x xbar : List K) : List K := amulS xbar ybar (recipS (subS x (squareS x)))
/-- `_pb_expit`: `b = 1/(exp x + 1)`, `xbar += ybar * (b - b²)` (the code evaluates `b - b²` as `b·c`, `c = 1/(1+exp(−x)) = 1 − b`) -/
def pbExpit (e0 : K) (ybar x xbar : List K) : List K :=
  let b := recipS (plusConstS (expS e0 x) 1)
  amulS xbar ybar (subS b (squareS b))
/-- `_pb_erf` / `_pb_erfi`: `xbar += ybar * (c exp(∓x²))` -/
def pbErf (c e0 : K) (ybar x xbar : List K) : List K := amulS xbar ybar (scaleS c (expS e0 (negS (squareS x))))
def pbErfi (c e0 : K) (ybar x xbar : List K) : List K := amulS xbar ybar (scaleS c (expS e0 (squareS x)))
/-- `_pb_dawsn`: `xbar += ybar * (1 - 2 x dawsn(x))` -/
def pbDawsn (v0 : K) (ybar x xbar : List K) : List K :=
  amulS xbar ybar (plusConstS (scaleS (-(nat 2 : K)) (mulS x (dawsnS v0 x))) 1)

end
end AV
