import AlgopyVerif.Model.Series
/-!
# Forward-mode derivative drivers (`UTPM.init_*/extract_*`, utpm.py:1930-2189): seed tables and
extraction index arithmetic.
-/
namespace AV
section
variable {K : Type} [Add K] [Mul K] [Sub K] [Neg K] [Div K] [Zero K] [One K] [NatCast K]

/-- unit vector `e_n` of length `N` -/
def unitVec (N n : Nat) : List K := (List.range N).map fun i => if i = n then 1 else 0

/-- `init_jacobian`: direction `n` is `e_n` -/
def jacDirs (N : Nat) : List (List K) := (List.range N).map fun n => unitVec N n

/-- `init_hessian` (utpm.py:2090-2118): block `n` (`n = 0 … N-1`) holds the `n+1` directions
`e_n, e_n + e_{n-1}, …, e_n + e_0` -/
def hessDirs (N : Nat) : List (List K) :=
  (List.range N).flatMap fun n => (List.range (n+1)).map fun j =>
    (List.range N).map fun i => (if i = n then (1:K) else 0) + (if j ≠ 0 ∧ i = n - j then 1 else 0)

/-- position of `e_n` : `sum(range(n+1))` -/
def hessA (n : Nat) : Nat := n * (n + 1) / 2
/-- position of `e_n + e_m` (`m < n`): `sum(range(n+2)) - m - 1` -/
def hessK (n m : Nat) : Nat := (n + 1) * (n + 2) / 2 - m - 1

/-- `extract_hessian` from the second-order coefficients `c2[k]` of the `N(N+1)/2` directions -/
def extractHessian (N : Nat) (c2 : List K) (n m : Nat) : K :=
  if n = m then nat 2 * co c2 (hessA n)
  else
    let hi := max n m
    let lo := min n m
    co c2 (hessK hi lo) - co c2 (hessA hi) - co c2 (hessA lo)

/-- `init_hess_vec`: `e_0 … e_{N-1}`, `v + e_0 … v + e_{N-1}`, `v` -/
def hessVecDirs (N : Nat) (v : List K) : List (List K) :=
  (jacDirs N) ++ ((List.range N).map fun n => (List.range N).map fun i => co v i + (if i = n then 1 else 0)) ++ [v]

/-- `extract_hess_vec`: `Hv[n] = -c2[n] + c2[n+N] - c2[2N]` -/
def extractHessVec (N : Nat) (c2 : List K) (n : Nat) : K := -(co c2 n) + co c2 (n + N) - co c2 (2 * N)

end
end AV

namespace AV
/-- table check: `hessDirs N` holds `e_n` at `hessA n` and `e_n + e_m` at `hessK n m`, and has `N(N+1)/2` entries -/
def hessTableOK (N : Nat) : Bool :=
  (hessDirs (K := Rat) N).length == N * (N + 1) / 2 &&
  (List.range N).all fun n =>
    ((hessDirs (K := Rat) N).getD (hessA n) [] == unitVec N n) &&
    (List.range n).all fun m =>
      (hessDirs (K := Rat) N).getD (hessK n m) [] == addS (unitVec N n) (unitVec N m)

/-- `hessVecDirs`: positions `n`, `n+N`, `2N` -/
def hessVecTableOK (N : Nat) (v : List Rat) : Bool :=
  (hessVecDirs N v).length == 2 * N + 1 &&
  ((hessVecDirs N v).getD (2 * N) [] == v) &&
  (List.range N).all fun n =>
    ((hessVecDirs N v).getD n [] == unitVec N n) &&
    ((hessVecDirs N v).getD (n + N) [] == addS v (unitVec N n))
end AV
