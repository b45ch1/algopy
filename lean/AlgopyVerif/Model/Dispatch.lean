import AlgopyVerif.Model.Series
import AlgopyVerif.Model.NdArray
import AlgopyVerif.Model.Utpm
import AlgopyVerif.Model.QI
import AlgopyVerif.Model.Dtype
import AlgopyVerif.Model.Heap
import AlgopyVerif.Model.Interp
import AlgopyVerif.Model.Convert
import AlgopyVerif.Model.NthDeriv
import AlgopyVerif.Model.Pullback
import AlgopyVerif.Model.Tracer
import AlgopyVerif.Model.Index
import AlgopyVerif.Model.Drivers
import AlgopyVerif.Model.Linalg
import AlgopyVerif.Model.Pade
import Lean.Data.Json
/-!
# Request dispatch of the model driver (JSON codec + operation table)
-/
namespace AV
open Lean NdArray

/-! ## number codecs -/
class Codec (K : Type) where
  parse : String → Option K
  render : K → String

def parseRat (s : String) : Option Rat :=
  match s.splitOn "/" with
  | [n] => n.toInt?.map (fun i => (i : Rat))
  | [n, d] => do
    let a ← n.toInt?
    let b ← d.toNat?
    if b = 0 then none else pure ((a : Rat) / (b : Rat))
  | _ => none

def showRat (r : Rat) : String := if r.den = 1 then toString r.num else s!"{r.num}/{r.den}"

instance : Codec Rat := ⟨parseRat, showRat⟩
instance : Codec QI where
  parse s := match s.splitOn "," with
    | [a] => do let r ← parseRat a; pure ⟨r, 0⟩
    | [a, b] => do let r ← parseRat a; let i ← parseRat b; pure ⟨r, i⟩
    | _ => none
  render z := s!"{showRat z.re},{showRat z.im}"

section
variable {K : Type} [Add K] [Mul K] [Sub K] [Neg K] [Div K] [Zero K] [One K] [NatCast K]
  [Codec K]
attribute [local instance] inh0

def getNum (j : Json) (k : String) : Except String K := do
  let s ← j.getObjValAs? String k
  match Codec.parse s with
  | some v => pure v
  | none => throw s!"bad number {s}"

def parseNums (a : Array String) : Except String (Array K) :=
  a.mapM fun s => match Codec.parse s with
    | some v => pure v
    | none => throw s!"bad number {s}"

def arrOfJson (j : Json) : Except String (NdArray K) := do
  let s ← j.getObjValAs? (Array Nat) "s"
  let d ← j.getObjValAs? (Array String) "d"
  let v ← parseNums d
  if v.size ≠ numel s.toList then throw "bad array size"
  pure ⟨s.toList, v⟩

def getArr (j : Json) (k : String) : Except String (NdArray K) := do
  arrOfJson (← j.getObjVal? k)

def getArrs (j : Json) (k : String) : Except String (List (NdArray K)) := do
  let a ← j.getObjValAs? (Array Json) k
  a.toList.mapM arrOfJson

def getNums (j : Json) (k : String) : Except String (List K) := do
  let a ← j.getObjValAs? (Array String) k
  pure (← parseNums a).toList

def arrToJson (a : NdArray K) : Json :=
  Json.mkObj [("s", toJson a.shape.toArray), ("d", Json.arr (a.data.map fun v => Json.str (Codec.render v)))]

def okArrs (l : List (NdArray K)) : Json := Json.mkObj [("r", Json.arr (l.map arrToJson).toArray)]

/-- table of element-wise functions: name → leaves → params → series → output series -/
def seriesFn (name : String) (lv : List K) (pr : List K) (n : Nat) (x : List K) :
    Except String (List (List K)) :=
  let l (i : Nat) : K := lv.getD i 0
  match name with
  | "exp" => pure [expS (l 0) x]
  | "log" => pure [logS (l 0) x]
  | "sqrt" => pure [sqrtS (l 0) x]
  | "powreal" => pure [powRealS (pr.getD 0 0) (l 0) x]
  | "pownat" => pure [powNatS n x]
  | "powbin" => pure [powBinS n x]
  | "powmask" => pure [powMaskS n (n + lv.length) x]      -- the number of leaves passed = (largest exponent of the array) - n
  | "sincos" => let r := sincosS (l 0) (l 1) x; pure [r.1, r.2]
  | "sinhcosh" => let r := sinhcoshS (l 0) (l 1) x; pure [r.1, r.2]
  | "tansec2" => let r := tansec2S (l 0) (l 1) x; pure [r.1, r.2]
  | "tanhsech2" => let r := tanhsech2S (l 0) (l 1) x; pure [r.1, r.2]
  | "arcsin" => let r := arcsinS (l 0) (l 1) x; pure [r.1, r.2]
  | "arctan" => let r := arctanS (l 0) x; pure [r.1, r.2]
  | "recip" => pure [recipS x]
  | "square" => pure [squareS x]
  | "neg" => pure [negS x]
  | "expm1" => pure [expm1S (l 0) (l 1) x]
  | "log1p" => pure [log1pS (l 0) x]
  | "logit" => pure [logitS (l 0) x]
  | "expit" => pure [expitS (l 0) (l 1) x]
  | "erf" => pure [erfS (pr.getD 0 0) (l 0) (l 1) x]
  | "erfi" => pure [erfiS (pr.getD 0 0) (l 0) (l 1) x]
  | "dawsn" => pure [dawsnS (l 0) x]
  | "slowgeneric" => pure [slowGenericS lv x]
  | "absolute" => pure [absoluteS (l 0) (l 1) x]
  | "sign" => pure [signS (l 0) x]
  | "clip" => pure [clipS (l 0) (l 1) x]
  | "mul_alias_xy" => pure [mulOutAliasXY x]
  | _ => throw s!"bad-fn {name}"

/-- apply a multi-output element-wise function to a UTPM array -/
def mapSn (name : String) (leaves : List (NdArray K)) (pr : List K) (n : Nat) (nout : Nat)
    (x : NdArray K) : Except String (List (NdArray K)) := do
  let D := utD x
  let P := utP x
  let shape := utShape x
  let m := numel shape
  let ser ← (Array.range (P * m)).mapM fun k =>
    let p := k / m
    let idx := unravel shape (k % m)
    seriesFn name (leaves.map fun lf => lf.get (p :: idx)) pr n (seriesAt x p idx)
  pure ((List.range nout).map fun o =>
    ofFn (D :: P :: shape) fun i =>
      match i with
      | d :: p :: idx => co ((ser.getD (p * m + ravel shape idx) []).getD o []) d
      | _ => 0)

def optArr (o : Option (NdArray K)) : Except String Json :=
  match o with
  | some a => pure (okArrs [a])
  | none => pure (Json.mkObj [("error", Json.str "shape")])

def handleK (j : Json) : Except String Json := do
  let op ← j.getObjValAs? String "op"
  match op with
  | "ew1" =>
    let name ← j.getObjValAs? String "fn"
    let x : NdArray K ← getArr j "x"
    let leaves : List (NdArray K) ← getArrs j "leaves"
    let pr : List K ← getNums j "params"
    let n := (j.getObjValAs? Nat "n").toOption.getD 0
    let nout := (j.getObjValAs? Nat "nout").toOption.getD 1
    pure (okArrs (← mapSn name leaves pr n nout x))
  | "ew2" =>
    -- binary series-level kernels on same-shape UTPM arrays (heap models of aliased kernels)
    let fn ← j.getObjValAs? String "fn"
    let x : NdArray K ← getArr j "x"
    let y : NdArray K ← getArr j "y"
    let f : List K → List K → List K ← match fn with
      | "mul_alias_y" => pure mulOutAliasY
      | "mul_alias_x" => pure mulOutAliasX
      | "imul" => pure imulS
      | "mul" => pure mulS
      | "div" => pure divS
      | _ => throw s!"bad-fn {fn}"
    optArr (zipS2 f x y)
  | "pb1" =>
    -- series-level pullback of a unary operation, starting from xbar = 0
    let fn ← j.getObjValAs? String "fn"
    let ybar : NdArray K ← getArr j "ybar"
    let x : NdArray K ← getArr j "x"
    let y : NdArray K ← getArr j "y"
    let leaves : List (NdArray K) ← getArrs j "leaves"
    let pr : List K ← getNums j "params"
    let n := (j.getObjValAs? Nat "n").toOption.getD 0
    let D := utD x
    let P := utP x
    let shape := utShape x
    let zero : List K := List.replicate D 0
    let res ← (pure (ofSeries D P shape fun p idx =>
      let yb := seriesAt ybar p idx
      let xs := seriesAt x p idx
      let ys := seriesAt y p idx
      let l (i : Nat) : K := (leaves.getD i ⟨[], #[]⟩).get (p :: idx)
      match fn with
      | "exp" => pbExp yb ys zero
      | "log" => pbLog yb xs zero
      | "sqrt" => pbSqrt yb ys zero
      | "square" => pbSquare yb xs zero
      | "reciprocal" => pbReciprocal yb xs zero
      | "negative" => pbNegative yb zero
      | "neg" => pbNeg yb zero
      | "sign" => pbSign yb zero
      | "absolute" => pbAbsolute (l 0) yb zero
      | "pownat" => pbPowNat n yb xs zero
      | "powreal" => pbPowReal (pr.getD 0 0) yb xs ys zero
      | "sin" => pbSin (l 0) (l 1) yb xs zero
      | "cos" => pbCos (l 0) (l 1) yb xs zero
      | "tan" => pbTan (l 0) (l 1) yb xs zero
      | "expm1" => pbExpm1 (l 0) yb xs zero
      | "log1p" => pbLog1p yb xs zero
      | "logit" => pbLogit yb xs zero
      | "expit" => pbExpit (l 0) yb xs zero
      | "erf" => pbErf (pr.getD 0 0) (l 0) yb xs zero
      | "erfi" => pbErfi (pr.getD 0 0) (l 0) yb xs zero
      | "dawsn" => pbDawsn (l 0) yb xs zero
      | _ => []) : Except String (NdArray K))
    pure (okArrs [res])
  | "pb2" =>
    -- series-level pullback of a binary operator on same-shape operands, from zero adjoints
    let fn ← j.getObjValAs? String "fn"
    let zbar : NdArray K ← getArr j "zbar"
    let x : NdArray K ← getArr j "x"
    let y : NdArray K ← getArr j "y"
    let z : NdArray K ← getArr j "z"
    let D := utD x
    let P := utP x
    let shape := utShape x
    let zero : List K := List.replicate D 0
    let f (p : Nat) (idx : List Nat) : List K × List K :=
      let zb := seriesAt zbar p idx
      let xs := seriesAt x p idx
      let ys := seriesAt y p idx
      let zs := seriesAt z p idx
      match fn with
      | "add" => pbAdd zb zero zero
      | "sub" => pbSub zb zero zero
      | "mul" => pbMul zb xs ys zero zero
      | "div" => pbDiv zb ys zs zero zero
      | _ => ([], [])
    pure (okArrs [ofSeries D P shape fun p idx => (f p idx).1, ofSeries D P shape fun p idx => (f p idx).2])
  | "np" =>
    -- mini-NumPy operations
    let what ← j.getObjValAs? String "what"
    let x : NdArray K ← getArr j "x"
    let parseIdx (ja : Array Json) : Except String (List Idx) := ja.toList.mapM fun o =>
      match o with
      | Json.str "e" => pure Idx.ellipsis
      | Json.str "n" => pure Idx.newaxis
      | o =>
        match o.getObjValAs? Int "i" with
        | .ok i => pure (Idx.int i)
        | .error _ => do
          let sl ← o.getObjValAs? (Array Json) "s"
          let g (k : Nat) : Option Int := match sl.getD k Json.null with
            | Json.null => none
            | v => (v.getInt?).toOption
          pure (Idx.slice (g 0) (g 1) (g 2))
    match what with
    | "getitem" =>
      let idx ← parseIdx (← j.getObjValAs? (Array Json) "idx")
      optArr (getitem x idx)
    | "utgetitem" =>
      let idx ← parseIdx (← j.getObjValAs? (Array Json) "idx")
      optArr (utGetitem x idx)
    | "utsetitem" =>
      let idx ← parseIdx (← j.getObjValAs? (Array Json) "idx")
      let v : NdArray K ← getArr j "v"
      optArr (utSetitem x idx v)
    | "utsetitemconst" =>
      let idx ← parseIdx (← j.getObjValAs? (Array Json) "idx")
      let c : NdArray K ← getArr j "v"
      optArr (utSetitemConst x idx c)
    | "sum" =>
      let ax ← j.getObjValAs? Nat "axis"
      pure (okArrs [sumAxis x ax])
    | "utsum" =>
      let ax ← j.getObjValAs? Int "axis"
      pure (okArrs [utSumAxis x ax])
    | "reshape" =>
      let sh ← j.getObjValAs? (Array Nat) "shape"
      optArr (x.reshape sh.toList)
    | "transpose" =>
      let pm ← j.getObjValAs? (Array Nat) "perm"
      pure (okArrs [x.transposeAxes pm.toList])
    | "broadcast" =>
      let sh ← j.getObjValAs? (Array Nat) "shape"
      pure (okArrs [x.broadcastTo sh.toList])
    | _ => throw s!"bad-what {what}"
  | "mat" =>
    -- matrix Taylor kernels; arrays (D,P,n,m); leaves (P,n,m) arrays (zeroth-order inverses etc.)
    let what ← j.getObjValAs? String "what"
    let x : NdArray K ← getArr j "x"
    let D := utD x
    let P := utP x
    let matOf (a : NdArray K) (pre : List Nat) : Mat K :=
      let n := a.shape.getD pre.length 0
      let m := a.shape.getD (pre.length + 1) 1
      if a.shape.length = pre.length + 1 then Mat.ofFn n 1 fun i _ => a.get (pre ++ [i])
      else Mat.ofFn n m fun i jj => a.get (pre ++ [i, jj])
    let series (a : NdArray K) (p : Nat) : List (Mat K) := (List.range (utD a)).map fun d => matOf a [d, p]
    let assemble (res : List (List (Mat K))) (vec : Bool) : NdArray K :=
      -- res[p][d] matrices of equal shape
      let m0 := ((res.getD 0 []).getD 0 ⟨[]⟩)
      let n := m0.nrows
      let m := m0.ncols
      if vec then ofFn [D, P, n] fun i => match i with
        | [d, p, a] => ((res.getD p []).getD d ⟨[]⟩).get a 0
        | _ => 0
      else ofFn [D, P, n, m] fun i => match i with
        | [d, p, a, b] => ((res.getD p []).getD d ⟨[]⟩).get a b
        | _ => 0
    match what with
    | "dot" =>
      let y : NdArray K ← getArr j "y"
      let xk ← j.getObjValAs? String "xk"   -- "u" UTPM, "a" constant
      let yk ← j.getObjValAs? String "yk"
      let xs (p : Nat) : List (Mat K) := if xk = "u" then series x p else
        (List.range D).map fun d => if d = 0 then matOf x [] else ⟨[]⟩
      let ys (p : Nat) : List (Mat K) := if yk = "u" then series y p else
        (List.range D).map fun d => if d = 0 then matOf y [] else ⟨[]⟩
      let P' := if xk = "u" then P else utP y
      let D' := if xk = "u" then D else utD y
      let res := (List.range P').map fun p =>
        let xl := if xk = "u" then series x p else (List.range D').map fun d => if d = 0 then matOf x [] else ⟨[]⟩
        let yl := if yk = "u" then series y p else (List.range D').map fun d => if d = 0 then matOf y [] else ⟨[]⟩
        dotM xl yl
      let m0 := ((res.getD 0 []).getD 0 ⟨[]⟩)
      pure (okArrs [ofFn [D', P', m0.nrows, m0.ncols] fun i => match i with
        | [d, p, a, b] => ((res.getD p []).getD d ⟨[]⟩).get a b
        | _ => 0])
    | "inv" =>
      let l0 : NdArray K ← getArr j "l0"        -- numpy.linalg.inv(x[0,p])
      pure (okArrs [assemble ((List.range P).map fun p => invM (series x p) (matOf l0 [p])) false])
    | "solve" =>
      let b : NdArray K ← getArr j "y"
      let l0 : NdArray K ← getArr j "l0"        -- inverse of A_0 per direction
      let kind ← j.getObjValAs? String "kind"   -- "uu", "au" (constant A), "ua" (constant b)
      match kind with
      | "uu" => pure (okArrs [assemble ((List.range P).map fun p => solveM (series x p) (matOf l0 [p]) (series b p)) false])
      | "au" =>
        let Pb := utP b
        let Db := utD b
        let res := (List.range Pb).map fun p => solveConstAM (matOf l0 [0]) (series b p)
        let m0 := ((res.getD 0 []).getD 0 ⟨[]⟩)
        pure (okArrs [ofFn [Db, Pb, m0.nrows, m0.ncols] fun i => match i with
          | [d, p, a, c] => ((res.getD p []).getD d ⟨[]⟩).get a c
          | _ => 0])
      | _ => pure (okArrs [assemble ((List.range P).map fun p => solveConstBM (series x p) (matOf l0 [p]) (matOf b [])) false])
    | _ => throw s!"bad-what {what}"
  | "conv" =>
    let what ← j.getObjValAs? String "what"
    match what with
    | "shift" =>
      let x : NdArray K ← getArr j "x"
      let s ← j.getObjValAs? Int "s"
      pure (okArrs [mapS1 (fun _ xs => shiftS s xs) [] x])
    | "symvec" =>
      let x : NdArray K ← getArr j "x"
      let uplo := ((← j.getObjValAs? String "uplo").toList.getD 0 'F')
      let N := x.shape.getD 2 0
      let M := (triPairs N).length
      pure (okArrs [ofFn [utD x, utP x, M] fun i =>
        match i with
        | [d, p, k] => co (symvecF N uplo fun r c => x.get [d, p, r, c]) k
        | _ => 0])
    | "vecsym" =>
      let v : NdArray K ← getArr j "x"
      let N ← j.getObjValAs? Nat "N"
      pure (okArrs [ofFn [utD v, utP v, N, N] fun i =>
        match i with
        | [d, p, r, c] => vecsymF N ((List.range (v.shape.getD 2 0)).map fun k => v.get [d, p, k]) r c
        | _ => 0])
    | "base_dirs2utpm" =>
      let x : NdArray K ← getArr j "x"
      let V : NdArray K ← getArr j "V"
      pure (okArrs [baseDirs2utpm x V])
    | "utpm2base_dirs" =>
      let u : NdArray K ← getArr j "x"
      let r := utpm2baseDirs u
      pure (okArrs [r.1, r.2])
    | "utpm2dirs" =>
      let u : NdArray K ← getArr j "x"
      pure (okArrs [utpm2dirs u])
    | "container" =>
      let X : NdArray K ← getArr j "x"
      let outer ← j.getObjValAs? (List Nat) "outer"
      pure (okArrs [containerToUtpm outer X])
    | _ => throw s!"bad-what {what}"
  | "bin" =>
    -- kinds: "uu" UTPM∘UTPM, "us" UTPM∘scalar, "ua" UTPM∘ndarray, "su" scalar∘UTPM, "au" ndarray∘UTPM
    let fn ← j.getObjValAs? String "fn"
    let kind ← j.getObjValAs? String "kind"
    match kind with
    | "uu" =>
      let x : NdArray K ← getArr j "x"
      let y : NdArray K ← getArr j "y"
      optArr (utBin fn x y)
    | "us" =>
      let x : NdArray K ← getArr j "x"
      let r : K ← getNum j "y"
      pure (okArrs [scalarOp fn x r])
    | "ua" =>
      let x : NdArray K ← getArr j "x"
      let c : NdArray K ← getArr j "y"
      match fn with
      | "add" => optArr (addConstArr false x c)
      | "sub" => optArr (addConstArr true x c)
      | "mul" => optArr (mulConstArr false x c)
      | "div" => optArr (mulConstArr true x c)
      | _ => throw "bad-fn"
    | "su" =>
      -- reflected forms with a scalar on the left (utpm.py:535-553)
      let r : K ← getNum j "x"
      let x : NdArray K ← getArr j "y"
      match fn with
      | "add" => pure (okArrs [scalarOp "add" x r])
      | "sub" => pure (okArrs [scalarOp "add" (negU x) r])
      | "mul" => pure (okArrs [scalarOp "mul" x r])
      | "div" => optArr (rdivConst ⟨[], #[r]⟩ x)
      | _ => throw "bad-fn"
    | "au" =>
      let c : NdArray K ← getArr j "x"
      let x : NdArray K ← getArr j "y"
      match fn with
      | "add" => optArr (addConstArr false x c)
      | "sub" => optArr (addConstArr false (negU x) c)
      | "mul" => optArr (mulConstArr false x c)
      | "div" => optArr (rdivConst c x)
      | _ => throw "bad-fn"
    | _ => throw "bad-kind"
  | _ => throw s!"bad-op {op}"

end

def parseDT (s : String) : Except String DT :=
  match s with
  | "i64" => pure .i64 | "f64" => pure .f64 | "c128" => pure .c128
  | _ => throw s!"bad dtype {s}"

def showDT : DT → String
  | .i64 => "i64" | .f64 => "f64" | .c128 => "c128"

/-- `{"op":"dtype","aop":"add","self":"f64","kind":"pyint"|"pyfloat"|"pycomplex"|"utpm"|"npscalar"|"ndarray","dt":"f64","refl":false}` -/
def handleDtype (j : Json) : Except String Json := do
  let aop ← match (← j.getObjValAs? String "aop") with
    | "add" => pure AOp.add | "sub" => pure AOp.sub | "mul" => pure AOp.mul | "div" => pure AOp.div
    | s => throw s!"bad aop {s}"
  let self ← parseDT (← j.getObjValAs? String "self")
  let dt ← parseDT ((j.getObjValAs? String "dt").toOption.getD "f64")
  let kind ← match (← j.getObjValAs? String "kind") with
    | "pyint" => pure OKind.pyint | "pyfloat" => pure OKind.pyfloat | "pycomplex" => pure OKind.pycomplex
    | "utpm" => pure (OKind.utpm dt) | "npscalar" => pure (OKind.npscalar dt) | "ndarray" => pure (OKind.ndarray dt)
    | s => throw s!"bad kind {s}"
  let refl := (j.getObjValAs? Bool "refl").toOption.getD false
  pure (Json.mkObj [("dt", Json.str (showDT (resultDT aop self kind refl)))])

/-- exact-interpolation requests -/
def handleInterp (j : Json) : Except String Json := do
  let what ← j.getObjValAs? String "what"
  match what with
  | "multi_indices" =>
    let N ← j.getObjValAs? Nat "N"
    let d ← j.getObjValAs? Nat "d"
    pure (Json.mkObj [("r", toJson ((Interp.multiIndices N d).map (·.toArray)).toArray)])
  | "gamma" =>
    let i ← j.getObjValAs? (Array Nat) "i"
    let jj ← j.getObjValAs? (Array Nat) "j"
    pure (Json.mkObj [("r", Json.str (showRat (Interp.gamma i.toList jj.toList)))])
  | "Gamma" =>
    let N ← j.getObjValAs? Nat "N"
    let d ← j.getObjValAs? Nat "d"
    let J := Interp.multiIndices N d
    pure (Json.mkObj [("r", Json.arr (J.map fun i => Json.arr (J.map fun jj => Json.str (showRat (Interp.gamma i jj))).toArray).toArray)])
  | "check" =>
    let N ← j.getObjValAs? Nat "N"
    let d ← j.getObjValAs? Nat "d"
    pure (Json.mkObj [("r", Json.bool (Interp.checkIdentity N d))])
  | "increment" =>
    let i ← j.getObjValAs? (Array Nat) "i"
    let k ← j.getObjValAs? (Array Nat) "k"
    pure (Json.mkObj [("r", toJson (Interp.increment i.toList k.toList).toArray)])
  | "binomial" =>
    let i ← j.getObjValAs? (Array String) "i"
    let jj ← j.getObjValAs? (Array Nat) "j"
    let ir ← i.toList.mapM fun s => match parseRat s with | some v => pure v | none => throw "bad rat"
    pure (Json.mkObj [("r", Json.str (showRat (Interp.miBinom ir jj.toList)))])
  | "pos" =>
    let i ← j.getObjValAs? (Array Nat) "i"
    pure (Json.mkObj [("r", toJson (Interp.toPos i.toList).toArray)])
  | _ => throw s!"bad-what {what}"

/-- closed-form n-th derivatives: `{"op":"nth","fn":…,"n":k,"x":"p/q","leaves":[…],"m":nat}` -/
def handleNth (j : Json) : Except String Json := do
  let fn ← j.getObjValAs? String "fn"
  let n ← j.getObjValAs? Nat "n"
  let xs ← j.getObjValAs? String "x"
  let x ← match parseRat xs with | some v => pure v | none => throw "bad x"
  let ls ← j.getObjValAs? (Array String) "leaves"
  let lv ← ls.toList.mapM fun s => match parseRat s with | some v => pure v | none => throw "bad leaf"
  let m := (j.getObjValAs? Nat "m").toOption.getD 0
  let l (i : Nat) : Rat := lv.getD i 0
  let r : Rat ← match fn with
    | "exp" => pure (dExp (l 0) n)
    | "exp2" => pure (dExp2 (l 0) (l 1) n)
    | "expm1" => pure (dExpm1 (l 0) (l 1) n)
    | "log" => pure (dLog (l 0) x n)
    | "logb" => pure (dLogb (l 0) (l 1) x n)
    | "log1p" => pure (dLog1p (l 0) x n)
    | "sqrt" => pure (dSqrt (l 0) x n)
    | "square" => pure (dSquare x n)
    | "negative" => pure (dNegative x n)
    | "reciprocal" => pure (dReciprocal x n)
    | "sin" => pure (dSin (l 0) (l 1) n)
    | "cos" => pure (dCos (l 0) (l 1) n)
    | "sinh" => pure (dSinh (l 0) (l 1) n)
    | "cosh" => pure (dCosh (l 0) (l 1) n)
    | "arctanh" => pure (dArctanh (l 0) x n)
    | "step" => pure (dStep (l 0) n)
    | "absolute" => pure (dAbsolute (l 0) (l 1) n)
    | "clip" => pure (dClip (l 0) (l 1) n)
    | "gammaln" => pure (dGammaln (l 0) (lv.drop 1) n)
    | "psi" => pure (dPsi lv n)
    | "polygamma" => pure (dPolygamma m lv n)
    | "hyperu" => pure (dHyperu (l 0) (lv.drop 1) n)
    | "erf" => pure (dErf (l 0) (l 1) x n)
    | "erfi" => pure (dErfi (l 0) (l 1) x n)
    | "arctan" => pure (dArctan (K := Rat) (l 0) x n)
    | "arcsin" => pure (dArcsin (K := Rat) (l 0) x (l 1) n)
    | "arccos" => pure (if n = 0 then l 0 else -(dArcsin (K := Rat) 0 x (l 1) n))
    | "arcsinh" => pure (dArcsinh (K := Rat) (l 0) x (l 1) n)
    | "arccosh" => pure (dArccosh (K := Rat) (l 0) x (l 1) n)
    | _ => throw s!"bad-fn {fn}"
  pure (Json.mkObj [("r", Json.str (showRat r))])

/-- recording state machine: `{"op":"tracer","ops":[{"f":3,"args":[{"n":0},{"c":1}]},"off","on"]}` -/
def handleTracer (j : Json) : Except String Json := do
  let ops ← j.getObjValAs? (Array Json) "ops"
  let ops' ← ops.toList.mapM fun o =>
    match o with
    | Json.str "off" => pure Tracer.Op.traceOff
    | Json.str "on" => pure Tracer.Op.traceOn
    | o => do
      let f ← o.getObjValAs? Nat "f"
      let args ← o.getObjValAs? (Array Json) "args"
      let as ← args.toList.mapM fun a =>
        match a.getObjValAs? Nat "n" with
        | .ok n => pure (Tracer.Arg.node n)
        | .error _ => do let c ← a.getObjValAs? Nat "c"; pure (Tracer.Arg.const c)
      pure (Tracer.Op.apply f as)
  let s := Tracer.run ops' {}
  let nodes := s.nodes.map fun nd => Json.mkObj [("f", toJson nd.func), ("id", toJson nd.id),
    ("args", Json.arr (nd.args.map fun a => match a with
      | .node i => Json.mkObj [("n", toJson i)]
      | .const c => Json.mkObj [("c", toJson c)]).toArray)]
  pure (Json.mkObj [("count", toJson s.count), ("tracing", toJson s.tracing), ("nodes", Json.arr nodes.toArray)])

/-- evaluations of a graph with a constant work array updated by accumulating writes:
`{"op":"workarray","undo":true,"ws":[[0,1],[0,2]],"h0":["0","0","0"],"rec":[[1,"1/2"],[2,"1/4"]],"calls":[[[1,"2"],[2,"4"]]],"out":0}` -/
def handleWorkarray (j : Json) : Except String Json := do
  let undo ← j.getObjValAs? Bool "undo"
  let wsj ← j.getObjValAs? (Array (Array Nat)) "ws"
  let ws := wsj.toList.map fun a => (a.getD 0 0, a.getD 1 0)
  let h0s ← j.getObjValAs? (Array String) "h0"
  let h0 ← h0s.toList.mapM fun s => match parseRat s with | some v => pure v | none => throw "bad rat"
  let pairs (a : Array Json) : Except String (List (Nat × Rat)) :=
    a.toList.mapM fun e => do
      let arr ← (fromJson? e : Except String (Array Json))
      let c ← (fromJson? (arr.getD 0 Json.null) : Except String Nat)
      let vs ← (fromJson? (arr.getD 1 Json.null) : Except String String)
      match parseRat vs with | some v => pure (c, v) | none => throw "bad rat"
  let recIns ← pairs (← j.getObjValAs? (Array Json) "rec")
  let callsj ← j.getObjValAs? (Array (Array Json)) "calls"
  let calls ← callsj.toList.mapM pairs
  let out ← j.getObjValAs? Nat "out"
  let r := Tracer.accHistory undo ws h0 recIns calls out
  pure (Json.mkObj [("r", Json.arr (r.map fun v => Json.str (showRat v)).toArray)])

/-- forward drivers: seed tables and extraction -/
def handleDrivers (j : Json) : Except String Json := do
  let what ← j.getObjValAs? String "what"
  let N ← j.getObjValAs? Nat "N"
  let ratList (k : String) : Except String (List Rat) := do
    let a ← j.getObjValAs? (Array String) k
    a.toList.mapM fun s => match parseRat s with | some v => pure v | none => throw "bad rat"
  let showM (m : List (List Rat)) : Json := Json.arr (m.map fun r => Json.arr (r.map fun v => Json.str (showRat v)).toArray).toArray
  match what with
  | "hess_dirs" => pure (Json.mkObj [("r", showM (hessDirs N))])
  | "jac_dirs" => pure (Json.mkObj [("r", showM (jacDirs N))])
  | "hess_vec_dirs" => do
    let v ← ratList "v"
    pure (Json.mkObj [("r", showM (hessVecDirs N v))])
  | "extract_hessian" => do
    let c2 ← ratList "c2"
    pure (Json.mkObj [("r", showM ((List.range N).map fun n => (List.range N).map fun m => extractHessian N c2 n m))])
  | "extract_hess_vec" => do
    let c2 ← ratList "c2"
    pure (Json.mkObj [("r", Json.arr ((List.range N).map fun n => Json.str (showRat (extractHessVec N c2 n))).toArray)])
  | _ => throw s!"bad-what {what}"

def handlePiv (j : Json) : Except String Json := do
  let piv ← j.getObjValAs? (Array Nat) "piv"
  let N := piv.size
  let W := (List.range N).map fun i => ((List.range N).map fun jj => piv2matF piv.toList i jj).toArray
  pure (Json.mkObj [("swap", toJson (pivSwap piv.toList).toArray), ("W", toJson W.toArray),
    ("det", toJson (piv2detF piv.toList))])

/-- Pade tables of `expm_pade`: `{"op":"pade","q":q,"x":"p/q"}` -> `U`, `V` of `_expm_pade<q>` for a scalar argument; with `"norm"`: the
order `expm_higham_2005` picks (0: scaling branch) -/
def handlePade (j : Json) : Except String Json := do
  match (j.getObjValAs? String "norm").toOption with
  | some ns =>
    match parseRat ns with
    | some v => pure (Json.mkObj [("order", toJson ((highamOrder v).getD 0))])
    | none => throw "bad rat"
  | none =>
    let q ← j.getObjValAs? Nat "q"
    let xs ← j.getObjValAs? String "x"
    match parseRat xs with
    | some x => pure (Json.mkObj [("U", Json.str (showRat (padeU q x))), ("V", Json.str (showRat (padeV q x)))])
    | none => throw "bad rat"

def handle (j : Json) : Except String Json := do
  if (j.getObjValAs? String "op").toOption == some "pade" then return (← handlePade j)
  if (j.getObjValAs? String "op").toOption == some "drivers" then return (← handleDrivers j)
  if (j.getObjValAs? String "op").toOption == some "tracer" then return (← handleTracer j)
  if (j.getObjValAs? String "op").toOption == some "workarray" then return (← handleWorkarray j)
  if (j.getObjValAs? String "op").toOption == some "nth" then return (← handleNth j)
  if (j.getObjValAs? String "op").toOption == some "piv" then return (← handlePiv j)
  if (j.getObjValAs? String "op").toOption == some "interp" then return (← handleInterp j)
  if (j.getObjValAs? String "op").toOption == some "dtype" then return (← handleDtype j)
  let f := (j.getObjValAs? String "f").toOption.getD "Q"
  if f = "QI" then handleK (K := QI) j else handleK (K := Rat) j

end AV
