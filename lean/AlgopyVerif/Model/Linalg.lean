import AlgopyVerif.Model.Basic
/-!
# Matrix Taylor polynomials: order-by-order kernels of `utpm/algorithms.py` (`_dot`, `_inv`, `_solve*`) generic in the
coefficient *ring* `R` (matrices in the driver and in the theorems; NumPy/SciPy results on zeroth coefficients are leaf
parameters), and the concrete matrix type `Mat` of the driver.  The factorization kernels (`_cholesky`, `_qr_rectangular`, `lu`,
`_eigh1`) are not modelled here: one order of each is a structure of step equations in `Proofs/Factor.lean`, `Proofs/EighStep.lean`.
-/
namespace AV
section
variable {R : Type} [Add R] [Mul R] [Sub R] [Neg R] [Zero R]

/-- coefficient access with default 0 (same as `co`, fewer class assumptions) -/
@[inline] def coR (x : List R) (k : Nat) : R := x.getD k 0

/-- algorithms.py:1246-1271 `_dot` : `z_d = Σ_{c=0}^{d} x_c y_{d-c}` (non-commutative product) -/
def dotM (x y : List R) : List R :=
  (List.range x.length).map fun d => sumRange 0 (d+1) fun c => coR x c * coR y (d-c)

/-- algorithms.py:1438-1459 `_inv` : `y_0 = inv(x_0)` (leaf), `y_d = (-y_0) (Σ_{c=1}^{d} x_c y_{d-c})` -/
def invStepM (x : List R) (y0 : R) (acc : List R) : R :=
  let d := acc.length
  if d = 0 then y0 else (-(coR acc 0)) * (sumRange 1 (d+1) fun c => coR x c * coR acc (d-c))
def invM (x : List R) (y0 : R) : List R := build (invStepM x y0) x.length

/-- algorithms.py:1518-1551 `_solve` : `y_d = A_0^{-1} (x_d - Σ_{k=1}^{d} A_k y_{d-k})`;
`a0inv` stands for `numpy.linalg.solve(A_0, ·)` -/
def solveStepM (a : List R) (a0inv : R) (b : List R) (acc : List R) : R :=
  let d := acc.length
  a0inv * (coR b d - sumRange 1 (d+1) fun k => coR a k * coR acc (d-k))
def solveM (a : List R) (a0inv : R) (b : List R) : List R := build (solveStepM a a0inv b) b.length

/-- algorithms.py:1555-1580 `_solve_non_UTPM_A` : constant matrix, every coefficient solved separately -/
def solveConstAM (a0inv : R) (b : List R) : List R := b.map fun bd => a0inv * bd

/-- algorithms.py:1583-1618 `_solve_non_UTPM_x` : constant right-hand side -/
def solveConstBM (a : List R) (a0inv : R) (b0 : R) : List R :=
  solveM a a0inv ((List.range a.length).map fun d => if d = 0 then b0 else 0)

end

/-! ## concrete matrices for the driver -/
section
variable {K : Type} [Add K] [Mul K] [Sub K] [Neg K] [Zero K]

/-- dense matrix as a list of rows -/
structure Mat (K : Type) where
  rows : List (List K)
deriving Repr, BEq

namespace Mat
def nrows (m : Mat K) : Nat := m.rows.length
def ncols (m : Mat K) : Nat := (m.rows.headD []).length
def get (m : Mat K) (i j : Nat) : K := (m.rows.getD i []).getD j 0
def ofFn (n k : Nat) (f : Nat → Nat → K) : Mat K := ⟨(List.range n).map fun i => (List.range k).map fun j => f i j⟩
def transpose (m : Mat K) : Mat K := ofFn m.ncols m.nrows fun i j => m.get j i
instance : Zero (Mat K) := ⟨⟨[]⟩⟩
/-- the empty matrix acts as a zero of any shape -/
def isZ (m : Mat K) : Bool := m.rows.isEmpty
instance : Add (Mat K) := ⟨fun a b => if a.isZ then b else if b.isZ then a else ofFn a.nrows a.ncols fun i j => a.get i j + b.get i j⟩
instance : Neg (Mat K) := ⟨fun a => ⟨a.rows.map fun r => r.map fun v => -v⟩⟩
instance : Sub (Mat K) := ⟨fun a b => a + (-b)⟩
instance : Mul (Mat K) := ⟨fun a b => if a.isZ ∨ b.isZ then ⟨[]⟩ else
  ofFn a.nrows b.ncols fun i j => (List.range a.ncols).foldl (fun s k => s + a.get i k * b.get k j) 0⟩
end Mat
end
end AV
