import AlgopyVerif.Model.Basic
/-!
# L0: truncated power series recurrences of `algopy/utpm/algorithms.py`

A series is a `List K` of length `D` (coefficient `d` at index `d`).  Every function
here mirrors one kernel of `RawAlgorithmsMixIn`; leaf values computed by NumPy/SciPy on
the zeroth coefficient (`numpy.exp(x[0])`, …) are *parameters*.

The file is Mathlib-free and generic in the coefficient type: it runs on `Rat` and on
Gaussian rationals in the driver and is instantiated at fields in the proofs.
-/
namespace AV
section
variable {K : Type} [Add K] [Mul K] [Sub K] [Neg K] [Div K] [Zero K] [One K] [NatCast K]

/-- coefficient access with default 0 -/
@[inline] def co (x : List K) (k : Nat) : K := x.getD k 0

/-- `(n : K)` -/
@[inline] def nat (n : Nat) : K := ((n : Nat) : K)

/-! ## ring operations -/

/-- algorithms.py:287-320 `_mul` : `z_d = Σ_{k=0}^{d} x_k y_{d-k}` -/
def mulS (x y : List K) : List K :=
  (List.range x.length).map fun d => sumRange 0 (d+1) fun k => co x k * co y (d-k)

def addS (x y : List K) : List K := (List.range x.length).map fun d => co x d + co y d
def subS (x y : List K) : List K := (List.range x.length).map fun d => co x d - co y d
def negS (x : List K) : List K := x.map fun a => -a
def scaleS (c : K) (x : List K) : List K := x.map fun a => c * a

/-- algorithms.py:378-392 `_truediv` : `z_d = 1/y_0 * (x_d - Σ_{k<d} z_k y_{d-k})` -/
def divStep (x y : List K) (acc : List K) : K :=
  let d := acc.length
  (1 / co y 0) * (co x d - sumRange 0 d fun k => co acc k * co y (d-k))
def divS (x y : List K) : List K := build (divStep x y) x.length

/-- algorithms.py:394-418 `_reciprocal` -/
def recipStep (y : List K) (acc : List K) : K :=
  let d := acc.length
  (1 / co y 0) * ((if d = 0 then (1:K) else 0) - sumRange 0 d fun k => co acc k * co y (d-k))
def recipS (y : List K) : List K := build (recipStep y) y.length

/-- algorithms.py:699-718 `_square` (half sum, doubled, plus the middle square) -/
def squareS (x : List K) : List K :=
  (List.range x.length).map fun d =>
    let dh := (d+1) / 2
    let s : K := if d = 0 then 0 else sumRange 0 dh fun k => (co x k * co x (d-k)) * nat 2
    if (d+1) % 2 = 1 then s + co x dh * co x dh else s

/-- algorithms.py:726-737 `_sqrt` : `y_k = 1/(2 y_0) (x_k - Σ_{j=1}^{k-1} y_j y_{k-j})` -/
def sqrtStep (y0 : K) (x : List K) (acc : List K) : K :=
  let k := acc.length
  if k = 0 then y0 else
    (1 / (nat 2 * co acc 0)) * (co x k - sumRange 1 k fun j => co acc j * co acc (k-j))
def sqrtS (y0 : K) (x : List K) : List K := build (sqrtStep y0 x) x.length

/-- algorithms.py:751-770 `_exp` : `y_d = (Σ_{k=1}^{d} y_{d-k} (k x_k)) / d` -/
def expStep (y0 : K) (x : List K) (acc : List K) : K :=
  let d := acc.length
  if d = 0 then y0 else
    (sumRange 1 (d+1) fun k => co acc (d-k) * (co x k * nat k)) / nat d
def expS (y0 : K) (x : List K) : List K := build (expStep y0 x) x.length

/-- algorithms.py:882-902 `_log`; the first loop builds `ỹ_d = d·y_d`,
the second divides by `d`. -/
def logTildeStep (y0 : K) (x : List K) (acc : List K) : K :=
  let d := acc.length
  if d = 0 then y0 else
    (co x d * nat d - sumRange 1 d fun j => co x (d-j) * co acc j) / co x 0
def logS (y0 : K) (x : List K) : List K :=
  let yt := build (logTildeStep y0 x) x.length
  (List.range x.length).map fun d => if d = 0 then co yt 0 else co yt d / nat d

/-- algorithms.py:550-556 `_pow_real`, general (real exponent) branch -/
def powRealStep (r : K) (y0 : K) (x : List K) (acc : List K) : K :=
  let d := acc.length
  if d = 0 then y0 else
    ((r * (sumRange 1 (d+1) fun k => co acc (d-k) * nat k * co x k)
      - (sumRange 1 d fun k => co x (d-k) * nat k * co acc k)) / co x 0) / nat d
def powRealS (r : K) (y0 : K) (x : List K) : List K := build (powRealStep r y0 x) x.length

/-- algorithms.py:489-521 `_pow_real`, `type(r)==int and r>=0` branches.
For `3 ≤ r ≤ 64` the code runs `y = x; repeat (r-1) times: y = x*y`. -/
def powNatS (r : Nat) (x : List K) : List K :=
  match r with
  | 0 => constS 1 x.length
  | 1 => x
  | 2 => squareS x
  | r+3 => (List.range (r+2)).foldl (fun y _ => mulS x y) x

/-- algorithms.py `_pow_real`, `type(r) == int and r > 64` (also Python ints beyond 64 bits): square and multiply,
`y = 1; base = x; while e > 0: if e & 1: y = base*y; e >>= 1; if e > 0: base = base*base` (the fuel bounds the loop) -/
def powBinLoop : Nat → Nat → List K → List K → List K
  | 0, _, _, acc => acc
  | fuel+1, e, base, acc =>
    if e = 0 then acc else
      let acc' := if e % 2 = 1 then mulS base acc else acc
      if e / 2 = 0 then acc' else powBinLoop fuel (e / 2) (mulS base base) acc'
def powBinS (r : Nat) (x : List K) : List K := powBinLoop (r + 1) r x (constS 1 x.length)

/-- algorithms.py `_pow_real`, branch for an ndarray of non-negative integer exponents, seen at one entry of
the array: `y = 1; for n in 1..m: y = where(r >= n, x*y, y)`, where `r` is the entry's exponent and `m` the
largest exponent of the array (so `m ≥ r`). -/
def powMaskS (r m : Nat) (x : List K) : List K :=
  (List.range m).foldl (fun y n => if n + 1 ≤ r then mulS x y else y) (constS 1 x.length)

/-! ## coupled recurrences (two series built together) -/

/-- algorithms.py:988-1005 `_sincos` -/
def sincosStep (s0 c0 : K) (x : List K) (acc : List (K × K)) : K × K :=
  let d := acc.length
  if d = 0 then (s0, c0) else
    let s := (sumRange 1 (d+1) fun k => nat k * co x k * ((acc.getD (d-k) (0,0)).2)) / nat d
    let c := (sumRange 1 (d+1) fun k => (-(nat k : K)) * co x k * ((acc.getD (d-k) (0,0)).1)) / nat d
    (s, c)
def sincosS (s0 c0 : K) (x : List K) : List K × List K :=
  (build (sincosStep s0 c0 x) x.length).unzip

/-- algorithms.py:1072-1088 `_sinhcosh` -/
def sinhcoshStep (s0 c0 : K) (x : List K) (acc : List (K × K)) : K × K :=
  let d := acc.length
  if d = 0 then (s0, c0) else
    let s := (sumRange 1 (d+1) fun k => nat k * co x k * ((acc.getD (d-k) (0,0)).2)) / nat d
    let c := (sumRange 1 (d+1) fun k => nat k * co x k * ((acc.getD (d-k) (0,0)).1)) / nat d
    (s, c)
def sinhcoshS (s0 c0 : K) (x : List K) : List K × List K :=
  (build (sinhcoshStep s0 c0 x) x.length).unzip

/-- algorithms.py:957-974 `_tansec2`; `z_d` uses the freshly computed `y_d`. -/
def tansec2Step (y0 z0 : K) (x : List K) (acc : List (K × K)) : K × K :=
  let d := acc.length
  if d = 0 then (y0, z0) else
    let y := (sumRange 1 (d+1) fun k => nat k * co x k * ((acc.getD (d-k) (0,0)).2)) / nat d
    let yy : Nat → K := fun j => if j = d then y else (acc.getD j (0,0)).1
    let z := (nat 2 * (sumRange 1 (d+1) fun k => nat k * yy k * yy (d-k))) / nat d
    (y, z)
def tansec2S (y0 z0 : K) (x : List K) : List K × List K :=
  (build (tansec2Step y0 z0 x) x.length).unzip

/-- algorithms.py:1090-1106 `_tanhsech2` -/
def tanhsech2Step (y0 z0 : K) (x : List K) (acc : List (K × K)) : K × K :=
  let d := acc.length
  if d = 0 then (y0, z0) else
    let y := (sumRange 1 (d+1) fun k => nat k * co x k * ((acc.getD (d-k) (0,0)).2)) / nat d
    let yy : Nat → K := fun j => if j = d then y else (acc.getD j (0,0)).1
    let z := (-(nat 2 : K)) * (sumRange 1 (d+1) fun k => nat k * yy k * yy (d-k)) / nat d
    (y, z)
def tanhsech2S (y0 z0 : K) (x : List K) : List K × List K :=
  (build (tanhsech2Step y0 z0 x) x.length).unzip

/-- algorithms.py:1016-1050 `_arcsin` / `_arccos` (they differ only in the base values) -/
def arcsinStep (y0 z0 : K) (x : List K) (acc : List (K × K)) : K × K :=
  let d := acc.length
  if d = 0 then (y0, z0) else
    let y := (nat d * co x d
        - sumRange 1 d fun k => nat k * (acc.getD k (0,0)).1 * (acc.getD (d-k) (0,0)).2)
        / ((acc.getD 0 (0,0)).2 * nat d)
    let yy : Nat → K := fun j => if j = d then y else (acc.getD j (0,0)).1
    let z := (-(sumRange 1 (d+1) fun k => nat k * yy k * co x (d-k))) / nat d
    (y, z)
def arcsinS (y0 z0 : K) (x : List K) : List K × List K :=
  (build (arcsinStep y0 z0 x) x.length).unzip

/-- algorithms.py:1052-1068 `_arctan`; `z = 1 + x²` is built alongside -/
def arctanStep (y0 : K) (x : List K) (acc : List (K × K)) : K × K :=
  let d := acc.length
  if d = 0 then (y0, 1 + co x 0 * co x 0) else
    let y := (nat d * co x d
        - sumRange 1 d fun k => nat k * (acc.getD k (0,0)).1 * (acc.getD (d-k) (0,0)).2)
        / ((acc.getD 0 (0,0)).2 * nat d)
    let z := (nat 2 * (sumRange 1 (d+1) fun k => nat k * co x k * co x (d-k))) / nat d
    (y, z)
def arctanS (y0 : K) (x : List K) : List K × List K :=
  (build (arctanStep y0 x) x.length).unzip

/-! ## helpers used by the special functions -/

/-- algorithms.py:38-50 `_plus_const` -/
def plusConstS (x : List K) (c : K) : List K :=
  (List.range x.length).map fun d => if d = 0 then co x 0 + c else co x d

/-- algorithms.py:88-111 `_black_f_white_fprime` :
`y_d = (Σ_{c=0}^{d-1} fp_{d-1-c} x_{c+1} (c+1)) / d` -/
def blackWhiteS (f0 : K) (fp x : List K) : List K :=
  (List.range x.length).map fun d =>
    if d = 0 then f0 else
      (sumRange 0 d fun c => co fp (d-1-c) * co x (c+1) * nat (c+1)) / nat d

/-- one update of `accum` in `_eval_slow_generic` (algorithms.py:80-82):
`accum[i] = Σ_{j<i} accum[j] x[i-j]` for `i = D-2 … 1` (descending, so only old values
are read), then `accum[0] = 0`. `accum` has length `D-1`. -/
def accumNext (x accum : List K) : List K :=
  (List.range accum.length).map fun i =>
    if i = 0 then 0 else sumRange 0 i fun j => co accum j * co x (i-j)

/-- algorithms.py:52-86 `_eval_slow_generic`; `derivs[n] = f^{(n)}(x_0)` -/
def slowGenericS (derivs : List K) (x : List K) : List K :=
  let D := x.length
  let rec go (fuel d : Nat) (accum : List K) (y : List K) : List K :=
    match fuel with
    | 0 => y
    | fuel+1 =>
      let accum := if d = 1 then x.drop 1 else accumNext x accum
      let y := (List.range D).map fun i =>
        if i = 0 then co y 0 else co y i + co derivs d * co accum (i-1) / nat (fact d)
      go fuel (d+1) accum y
  go (D-1) 1 [] ((List.range D).map fun i => if i = 0 then co derivs 0 else 0)

/-- algorithms.py:113-159 `_taylor_polynomials_of_ode_solutions`
(`b(u) v'(u) - a(u) v(u) = c(u)`), state = (e, ṽ, v) filled for `k = 0 … D-1`. -/
def odeS (a b c u : List K) (v0 : K) : List K :=
  let D := u.length
  let ut : Nat → K := fun j => if j = 0 then co u 0 else co u j * nat j
  let step (st : List K × List K × List K) (k : Nat) : List K × List K × List K :=
    let (e, vt, v) := st
    let (vt, v) :=
      if k = 0 then (vt ++ [v0], v ++ [v0]) else
        let s1 := sumRange 1 (k+1) fun j => (co c (k-j) + co e (k-j)) * ut j
        let s2 := sumRange 1 k fun j => co b (k-j) * co vt j
        let vtk := (s1 - s2) / co b 0
        (vt ++ [vtk], v ++ [vtk / nat k])
    let ek : K := if k < D-1 then sumRange 0 (k+1) fun j => co a j * co v (k-j) else 0
    (e ++ [ek], vt, v)
  ((List.range D).foldl step ([], [], [])).2.2

/-! ## kink functions (mask semantics of the code) -/

/-- algorithms.py:650-667 `_absolute` : `z_0 = |x_0|`, `z_d = x_d * sign(x_0)` -/
def absoluteS (sgn0 abs0 : K) (x : List K) : List K :=
  (List.range x.length).map fun d => if d = 0 then abs0 else co x d * sgn0

/-- algorithms.py:825-833 `_sign` -/
def signS (sgn0 : K) (x : List K) : List K := constS sgn0 x.length

/-- algorithms.py:323-355 `_minimum/_maximum` : `xmask * x_d + (1 - xmask) * y_d` -/
def selectS (xmask : K) (x y : List K) : List K :=
  (List.range x.length).map fun d => xmask * co x d + (1 - xmask) * co y d

/-- algorithms.py:843-861 `_botched_clip` on a clone of x: `y_0 = clip(x_0)`, `y_d = x_d * mask` -/
def clipS (clip0 mask : K) (x : List K) : List K :=
  (List.range x.length).map fun d => if d = 0 then clip0 else co x d * mask

/-! ## compositions used by UTPM methods -/

/-- algorithms.py:780-784 `_expm1` -/
def expm1S (e0 em0 : K) (x : List K) : List K := blackWhiteS em0 (expS e0 x) x
/-- algorithms.py:912-916 `_log1p` -/
def log1pS (l0 : K) (x : List K) : List K := blackWhiteS l0 (recipS (plusConstS x 1)) x
/-- algorithms.py:793-797 `_logit` -/
def logitS (l0 : K) (x : List K) : List K := blackWhiteS l0 (recipS (subS x (squareS x))) x
/-- algorithms.py `_expit`: the code forms the derivative series as the product `b·c`, `b = 1/(1+exp x)`, `c = 1/(1+exp(−x))`
(accurate in floating point for negative `x_0`); in exact arithmetic `c = 1 − b`, so this is the series `b − b²` the model evaluates -/
def expitS (e0 f0 : K) (x : List K) : List K :=
  let b := recipS (plusConstS (expS e0 x) 1)
  blackWhiteS f0 (subS b (squareS b)) x
/-- algorithms.py:1108-1112 `_erf` : `c = 2/√π` (float leaf), `e0 = exp(-x_0²)` -/
def erfS (c e0 f0 : K) (x : List K) : List K :=
  blackWhiteS f0 (scaleS c (expS e0 (negS (squareS x)))) x
/-- algorithms.py:1121-1125 `_erfi` -/
def erfiS (c e0 f0 : K) (x : List K) : List K :=
  blackWhiteS f0 (scaleS c (expS e0 (squareS x))) x
/-- algorithms.py:927-948 `_dawsn` : `a = -2u, b = 1, c = 1` -/
def dawsnS (v0 : K) (x : List K) : List K :=
  odeS (scaleS (-(nat 2 : K)) x) (constS 1 x.length) (constS 1 x.length) x v0

end
end AV
