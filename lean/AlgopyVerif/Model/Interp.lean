import AlgopyVerif.Model.Basic
/-!
# Exact interpolation (`algopy/exact_interpolation.py`), Mathlib-free, over `Rat`
-/
namespace AV.Interp

/-- `generate_multi_indices(N, deg)` (exact_interpolation.py:29-95): all multi-indices of
length `N` with sum `deg`, first index descending -/
def multiIndices : Nat → Nat → List (List Nat)
  | 0, _ => []
  | 1, deg => [[deg]]
  | N+2, deg => (List.range (deg+1)).reverse.flatMap fun a => (multiIndices (N+1) (deg - a)).map (a :: ·)

/-- `mybinomial(x, j) = Π_{k<j} (x-k)/(j-k)` (exact_interpolation.py:116-117), real upper argument -/
def binomR (x : Rat) (j : Nat) : Rat :=
  (List.range j).foldl (fun acc (k : Nat) => acc * ((x - (k:Rat)) / ((j:Rat) - (k:Rat)))) 1

/-- `multi_index_binomial(i, j)` -/
def miBinom (i : List Rat) (j : List Nat) : Rat := (List.zipWith binomR i j).foldl (· * ·) 1
def miAbs (i : List Nat) : Nat := i.foldl (· + ·) 0
def miFact (i : List Nat) : Nat := (i.map fact).foldl (· * ·) 1

/-- all `k` with `0 ≤ k ≤ i` componentwise, last index fastest (the order `increment` walks) -/
def box : List Nat → List (List Nat)
  | [] => [[]]
  | a :: as => (List.range (a+1)).flatMap fun x => (box as).map (x :: ·)

/-- `increment(i, k)` (exact_interpolation.py:165-212) -/
def increment (i k : List Nat) : List Nat :=
  let rec go : List Nat → List Nat → Nat → List Nat   -- reversed lists, carry
    | [], [], _ => []
    | iN :: is, kN :: ks, carry =>
      if iN = 0 then kN :: go is ks carry
      else
        let tmp := kN + carry
        let c := tmp / (iN + 1)
        (tmp % (iN + 1)) :: (if c = 0 then ks else go is ks c)
    | _, ks, _ => ks
  (go i.reverse k.reverse 1).reverse

/-- one term of the sum in `gamma` (formula 13.13 of Griewank–Walther) -/
def alpha (i j k : List Nat) (deg : Nat) : Rat :=
  let ak := miAbs k
  let sgn : Rat := if (miAbs i - ak) % 2 = 0 then 1 else -1
  let t2 := miBinom (i.map fun (n : Nat) => (n:Rat)) k
  let z := k.map fun (kn : Nat) => ((deg:Rat) * (kn:Rat)) / (ak:Rat)
  let t3 := miBinom z j
  let t4 := ((ak:Rat) / (deg:Rat)) ^ (miAbs i)
  sgn * t2 * t3 * t4

/-- `gamma(i, j)` (exact_interpolation.py:214-242): sum over all `0 < k ≤ i` -/
def gamma (i j : List Nat) : Rat :=
  let deg := miAbs j
  let terms := ((box i).filter fun k => miAbs k ≠ 0).map fun k => alpha i j k deg
  terms.foldl (· + ·) 0 / (miFact i : Rat)

def miPow (x a : List Nat) : Rat :=
  (List.zipWith (fun (xn an : Nat) => ((xn:Rat))^an) x a).foldl (· * ·) 1

/-- `Σ_j Γ[i,j]·ray_j^α = δ(i,α)` for all `i, α` of degree `d` (rays = the multi-indices) -/
def checkIdentity (N d : Nat) : Bool :=
  let J := multiIndices N d
  J.all fun i => J.all fun a =>
    (J.foldl (fun s j => s + gamma i j * miPow j a) 0) == (if i = a then 1 else 0)

/-- `convert_multi_indices_to_pos` for one multi-index: index `n` repeated `i[n]` times -/
def toPos (i : List Nat) : List Nat :=
  (List.zip (List.range i.length) i).flatMap fun (n, c) => List.replicate c n

end AV.Interp
