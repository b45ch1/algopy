import AlgopyVerif.Proofs.Jet
import Mathlib.Analysis.SpecialFunctions.Log.Deriv
import Mathlib.Analysis.SpecialFunctions.Sqrt
import Mathlib.Analysis.SpecialFunctions.Trigonometric.DerivHyp
import Mathlib.Analysis.SpecialFunctions.Trigonometric.ArctanDeriv
import Mathlib.Analysis.SpecialFunctions.Trigonometric.InverseDeriv
/-!
# The elementary kernels compute jets

For a list `x` that is the jet of a smooth germ `X`, each kernel `K` of `Model/Series.lean` returns the jet of
`g ∘ X`.  The Taylor sequence of `g ∘ X` obeys the step equation of the kernel — this is the differential identity of
`g` read through `tc`, the input coefficients being those of `X` — and a sequence with the start value and the successor
equation of the step is what `build` computes.  Each proof runs: (i) `refine .of_eq_map_range hY (build_ite_eq_map_range …)`,
`.pair_of_eq_map_range` for a coupled kernel; (ii) the index step `simp (disch := omega) only [List.length_map,
List.length_range, co_map_range, hx.coeff]` (`getD_map_range` for pairs); (iii) the lemma of the kernel's differential
identity, `tc_succ_of_deriv_eq_mul` for `Y' = X'·W`, `tc_succ_of_deriv_mul_eq` for `Y'·W = R`.  A new kernel also needs its
`@[simp]` length lemma in `Proofs/Build.lean`.
-/
open Polynomial Filter Topology
open scoped ContDiff

namespace AV

theorem unzip_fst_length {α β} (l : List (α × β)) : l.unzip.1.length = l.length := by simp
theorem unzip_snd_length {α β} (l : List (α × β)) : l.unzip.2.length = l.length := by simp

theorem JetOf.exp {x : List ℝ} {X : ℝ → ℝ} (hx : JetOf x X) :
    JetOf (expS (Real.exp (X 0)) x) (fun t => Real.exp (X t)) := by
  have hY := smooth0_comp hx.smooth Real.contDiff_exp.contDiffAt
  refine .of_eq_map_range hY (build_ite_eq_map_range (fun _ => tc_zero _) fun d hd => ?_)
  simp (disch := omega) only [List.length_map, List.length_range, co_map_range, hx.coeff]
  rw [tc_succ_of_deriv_eq_mul hx.smooth hY (deriv_comp_of_hasDerivAt hx.smooth (.of_forall Real.hasDerivAt_exp))]
  exact congrArg (· / _) (sumRange_congr' rfl rfl fun k _ _ => by ring)

theorem JetOf.log {x : List ℝ} {X : ℝ → ℝ} (hx : JetOf x X) (h0 : X 0 ≠ 0) :
    JetOf (logS (Real.log (X 0)) x) (fun t => Real.log (X t)) := by
  have hY := smooth0_comp hx.smooth (Real.contDiffAt_log.mpr h0)
  have dY : deriv (fun t => Real.log (X t)) * X =ᶠ[𝓝 0] deriv X := by
    filter_upwards [deriv_comp_of_hasDerivAt hx.smooth ((eventually_ne_nhds h0).mono fun y => Real.hasDerivAt_log),
      hx.smooth.continuousAt.eventually_ne h0] with t ht hne
    rw [Pi.mul_apply, ht, Pi.mul_apply, inv_mul_cancel_right₀ hne]
  have hX0 : tc X 0 ≠ 0 := by rwa [tc_zero]
  -- the first loop of `_log` builds `ỹ_d = d·y_d`
  have hyt : build (logTildeStep (Real.log (X 0)) x) x.length = (List.range x.length).map fun d : ℕ =>
      if d = 0 then Real.log (X 0) else (d : ℝ) * tc (fun t => Real.log (X t)) d := by
    refine build_ite_eq_map_range (fun _ => rfl) fun m hm => ?_
    simp (disch := omega) only [List.length_map, List.length_range, co_map_range, hx.coeff, if_neg]
    rw [eq_div_iff hX0, mul_comm, tc_of_deriv_mul_eq hY hx.smooth dY, tc_deriv, sumRange_eq, Nat.add_sub_cancel]
    simp only [succ_sub_one_add, nat_eq]
    exact congrArg₂ _ (mul_comm _ _) (Finset.sum_congr rfl fun j _ => by ring)
  refine .of_eq_map_range hY (n := x.length) ?_
  rw [logS, hyt]
  refine map_range_congr fun d hd => ?_
  cases d with
  | zero => rw [if_pos rfl, co_map_range hd, if_pos rfl, tc_zero]
  | succ m =>
    rw [if_neg (Nat.succ_ne_zero m), co_map_range hd, if_neg (Nat.succ_ne_zero m), nat_eq,
      mul_div_cancel_left₀ _ (by exact_mod_cast Nat.succ_ne_zero m)]

/-- of the divisor only the coefficients below `x.length` are read -/
theorem divS_jet {x y : List ℝ} {X Y : ℝ → ℝ} (hx : JetOf x X) (hY : Smooth0 Y)
    (hy : ∀ k, k < x.length → co y k = tc Y k) (h0 : Y 0 ≠ 0) : JetOf (divS x y) (fun t => X t / Y t) := by
  have hZ : Smooth0 (fun t => X t / Y t) := hx.smooth.div hY h0
  have hmul : (fun t => X t / Y t) * Y =ᶠ[𝓝 0] X :=
    (hY.continuousAt.eventually_ne h0).mono fun t ht => div_mul_cancel₀ _ ht
  have hY0 : tc Y 0 ≠ 0 := by rwa [tc_zero]
  refine .of_eq_map_range hZ (build_eq_map_range fun d hd => ?_)
  rw [divStep, List.length_map, List.length_range]
  simp (disch := omega) only [co_map_range, hx.coeff, hy]
  rw [← tc_congr hmul, tc_mul_at hZ hY, Finset.sum_range_succ, Nat.sub_self, sumRange_eq, Nat.sub_zero]
  simp only [Nat.zero_add]
  rw [add_sub_cancel_left, one_div, mul_comm _ (tc Y 0), inv_mul_cancel_left₀ hY0]

theorem JetOf.recip {x : List ℝ} {X : ℝ → ℝ} (hx : JetOf x X) (h0 : X 0 ≠ 0) :
    JetOf (recipS x) (fun t => (X t)⁻¹) := by
  rw [recipS_eq_divS]
  exact (divS_jet (jetOf_const 1 x.length) hx.smooth (by simpa using hx.coeff) h0).of_eq fun t => (one_div _).symm

theorem JetOf.div {x y : List ℝ} {X Y : ℝ → ℝ} (hx : JetOf x X) (hy : JetOf y Y) (hl : y.length = x.length)
    (h0 : Y 0 ≠ 0) : JetOf (mulS x (recipS y)) (fun t => X t / Y t) :=
  (hx.mul (hy.recip h0) (by rw [recipS_length, hl])).of_eq fun t => div_eq_mul_inv _ _

theorem mul_taylor (x y : List ℝ) (d : ℕ) (hd : d < x.length) :
    co (mulS x y) d = tc (curve x * curve y) d :=
  (mulS_jet (jetOf_curve x) (smooth0_curve y) fun k _ => (tc_curve y k).symm).coeff d (by rwa [mulS_length])

theorem div_taylor (x y : List ℝ) (hy : co y 0 ≠ 0) : ∀ d, d < x.length →
    co (divS x y) d = tc (fun t => curve x t / curve y t) d := fun d hd =>
  (divS_jet (jetOf_curve x) (smooth0_curve y) (fun k _ => (tc_curve y k).symm) (by rwa [curve_zero])).coeff d
    (by rwa [divS_length])

theorem JetOf.sqrt {x : List ℝ} {X : ℝ → ℝ} (hx : JetOf x X) (h0 : 0 < X 0) :
    JetOf (sqrtS (Real.sqrt (X 0)) x) (fun t => Real.sqrt (X t)) := by
  have hY := smooth0_comp hx.smooth (Real.contDiffAt_sqrt h0.ne')
  have hsq : (fun t => Real.sqrt (X t)) * (fun t => Real.sqrt (X t)) =ᶠ[𝓝 0] X :=
    (hx.smooth.continuousAt.eventually (lt_mem_nhds h0)).mono fun t ht => Real.mul_self_sqrt ht.le
  have hY0 : tc (fun t => Real.sqrt (X t)) 0 ≠ 0 := by rw [tc_zero]; exact (Real.sqrt_pos.mpr h0).ne'
  refine .of_eq_map_range hY (build_ite_eq_map_range (fun _ => tc_zero _) fun d hd => ?_)
  simp (disch := omega) only [List.length_map, List.length_range, co_map_range, hx.coeff]
  -- `X_{d+1} = Σ_{k ≤ d+1} Y_k Y_{d+1-k}`, the two outer terms carrying `Y_{d+1}`
  rw [← tc_congr hsq, tc_mul_at hY hY, Finset.sum_range_succ, Finset.sum_range_succ', sumRange_eq, Nat.sub_self,
    Nat.sub_zero, Nat.add_sub_cancel, nat_eq]
  simp only [Nat.add_comm 1, Nat.cast_ofNat]
  field_simp
  ring

theorem JetOf.sincos {x : List ℝ} {X : ℝ → ℝ} (hx : JetOf x X) :
    JetOf (sincosS (Real.sin (X 0)) (Real.cos (X 0)) x).1 (fun t => Real.sin (X t))
    ∧ JetOf (sincosS (Real.sin (X 0)) (Real.cos (X 0)) x).2 (fun t => Real.cos (X t)) := by
  have hS := smooth0_comp hx.smooth Real.contDiff_sin.contDiffAt
  have hC := smooth0_comp hx.smooth Real.contDiff_cos.contDiffAt
  refine JetOf.pair_of_eq_map_range hS hC (build_ite_eq_map_range (fun _ => by rw [tc_zero, tc_zero]) fun d hd => ?_)
  simp (disch := omega) only [List.length_map, List.length_range, getD_map_range, hx.coeff]
  rw [tc_succ_of_deriv_eq_mul hx.smooth hC (deriv_comp_of_hasDerivAt hx.smooth (.of_forall Real.hasDerivAt_sin)),
    tc_succ_of_deriv_eq_mul hx.smooth hS.neg (deriv_comp_of_hasDerivAt hx.smooth (.of_forall Real.hasDerivAt_cos))]
  simp only [tc_neg, neg_mul, mul_neg]

theorem JetOf.sinhcosh {x : List ℝ} {X : ℝ → ℝ} (hx : JetOf x X) :
    JetOf (sinhcoshS (Real.sinh (X 0)) (Real.cosh (X 0)) x).1 (fun t => Real.sinh (X t))
    ∧ JetOf (sinhcoshS (Real.sinh (X 0)) (Real.cosh (X 0)) x).2 (fun t => Real.cosh (X t)) := by
  have hS := smooth0_comp hx.smooth Real.contDiff_sinh.contDiffAt
  have hC := smooth0_comp hx.smooth Real.contDiff_cosh.contDiffAt
  refine JetOf.pair_of_eq_map_range hS hC (build_ite_eq_map_range (fun _ => by rw [tc_zero, tc_zero]) fun d hd => ?_)
  simp (disch := omega) only [List.length_map, List.length_range, getD_map_range, hx.coeff]
  rw [tc_succ_of_deriv_eq_mul hx.smooth hC (deriv_comp_of_hasDerivAt hx.smooth (.of_forall Real.hasDerivAt_sinh)),
    tc_succ_of_deriv_eq_mul hx.smooth hS (deriv_comp_of_hasDerivAt hx.smooth (.of_forall Real.hasDerivAt_cosh))]

theorem JetOf.sin {x : List ℝ} {X : ℝ → ℝ} (hx : JetOf x X) :
    JetOf (sincosS (Real.sin (X 0)) (Real.cos (X 0)) x).1 (fun t => Real.sin (X t)) := hx.sincos.1

theorem JetOf.cos {x : List ℝ} {X : ℝ → ℝ} (hx : JetOf x X) :
    JetOf (sincosS (Real.sin (X 0)) (Real.cos (X 0)) x).2 (fun t => Real.cos (X t)) := hx.sincos.2

theorem JetOf.sinh {x : List ℝ} {X : ℝ → ℝ} (hx : JetOf x X) :
    JetOf (sinhcoshS (Real.sinh (X 0)) (Real.cosh (X 0)) x).1 (fun t => Real.sinh (X t)) := hx.sinhcosh.1

theorem JetOf.cosh {x : List ℝ} {X : ℝ → ℝ} (hx : JetOf x X) :
    JetOf (sinhcoshS (Real.sinh (X 0)) (Real.cosh (X 0)) x).2 (fun t => Real.cosh (X t)) := hx.sinhcosh.2

theorem tanLike_jet {x : List ℝ} {X Y Z : ℝ → ℝ} (c : ℝ) (hx : JetOf x X) (hY : Smooth0 Y) (hZ : Smooth0 Z)
    (dY : deriv Y =ᶠ[𝓝 0] deriv X * Z) (dZ : deriv Z =ᶠ[𝓝 0] deriv Y * fun t => c * Y t) :
    build (tanLikeStep c (Y 0) (Z 0) x) x.length = (List.range x.length).map fun k => (tc Y k, tc Z k) := by
  refine build_ite_eq_map_range (fun _ => by rw [tc_zero, tc_zero]) fun d hd => ?_
  simp (disch := omega) only [List.length_map, List.length_range, getD_map_range, hx.coeff]
  -- the fresh `y_{d+1}` is `tc Y (d+1)`, so `yy` is `tc Y` throughout
  rw [← tc_succ_of_deriv_eq_mul hx.smooth hZ dY d]
  simp (disch := omega) only [if_neg, ite_eq_apply (tc Y)]
  rw [tc_succ_of_deriv_eq_mul hY (contDiffAt_const.mul hY) dZ, mul_sumRange]
  simp only [tc_const_mul, mul_left_comm _ c]

theorem hasDerivAt_tan' {y : ℝ} (h : Real.cos y ≠ 0) : HasDerivAt Real.tan (1 + Real.tan y * Real.tan y) y :=
  (Real.hasDerivAt_tan h).congr_deriv (by rw [← Real.inv_one_add_tan_sq h, one_div, inv_inv, sq])

/-- the second output is `sec² = 1 + tan²` -/
theorem JetOf.tansec2 {x : List ℝ} {X : ℝ → ℝ} (hx : JetOf x X) (h0 : Real.cos (X 0) ≠ 0) :
    JetOf (tansec2S (Real.tan (X 0)) (1 / (Real.cos (X 0) * Real.cos (X 0))) x).1 (fun t => Real.tan (X t))
    ∧ JetOf (tansec2S (Real.tan (X 0)) (1 / (Real.cos (X 0) * Real.cos (X 0))) x).2
        (fun t => 1 + Real.tan (X t) * Real.tan (X t)) := by
  have hY := smooth0_comp hx.smooth (Real.contDiffAt_tan.mpr h0)
  have hZ : Smooth0 (fun t => 1 + Real.tan (X t) * Real.tan (X t)) := contDiffAt_const.add (hY.mul hY)
  rw [show 1 / (Real.cos (X 0) * Real.cos (X 0)) = 1 + Real.tan (X 0) * Real.tan (X 0) by
    rw [← sq, ← sq, one_div, ← Real.inv_one_add_tan_sq h0, inv_inv]]
  exact JetOf.pair_of_eq_map_range hY hZ (tanLike_jet 2 hx hY hZ
    (deriv_comp_of_hasDerivAt hx.smooth
      ((Real.continuous_cos.continuousAt.eventually_ne h0).mono fun y => hasDerivAt_tan'))
    (by simpa only [deriv_const_add'] using deriv_mul_self_of_smooth0 hY))

theorem JetOf.tan {x : List ℝ} {X : ℝ → ℝ} (hx : JetOf x X) (h0 : Real.cos (X 0) ≠ 0) :
    JetOf (tansec2S (Real.tan (X 0)) (1 / (Real.cos (X 0) * Real.cos (X 0))) x).1 (fun t => Real.tan (X t)) := (hx.tansec2 h0).1

theorem contDiffAt_tanh (a : ℝ) : ContDiffAt ℝ ∞ Real.tanh a := by
  rw [funext Real.tanh_eq_sinh_div_cosh]
  exact Real.contDiff_sinh.contDiffAt.div Real.contDiff_cosh.contDiffAt (Real.cosh_pos a).ne'

theorem hasDerivAt_tanh (y : ℝ) : HasDerivAt Real.tanh (1 - Real.tanh y * Real.tanh y) y := by
  have hne : Real.cosh y ≠ 0 := (Real.cosh_pos y).ne'
  rw [funext Real.tanh_eq_sinh_div_cosh]
  refine ((Real.hasDerivAt_sinh y).div (Real.hasDerivAt_cosh y) hne).congr_deriv ?_
  field_simp

/-- the second output is `sech² = 1 - tanh²` -/
theorem JetOf.tanhsech2 {x : List ℝ} {X : ℝ → ℝ} (hx : JetOf x X) :
    JetOf (tanhsech2S (Real.tanh (X 0)) (1 - Real.tanh (X 0) * Real.tanh (X 0)) x).1 (fun t => Real.tanh (X t))
    ∧ JetOf (tanhsech2S (Real.tanh (X 0)) (1 - Real.tanh (X 0) * Real.tanh (X 0)) x).2
        (fun t => 1 - Real.tanh (X t) * Real.tanh (X t)) := by
  have hY := smooth0_comp hx.smooth (contDiffAt_tanh (X 0))
  have hZ : Smooth0 (fun t => 1 - Real.tanh (X t) * Real.tanh (X t)) := contDiffAt_const.sub (hY.mul hY)
  refine JetOf.pair_of_eq_map_range hY hZ (tanLike_jet (-2) hx hY hZ
    (deriv_comp_of_hasDerivAt hx.smooth (.of_forall hasDerivAt_tanh)) ?_)
  filter_upwards [deriv_mul_self_of_smooth0 hY] with t ht
  rw [deriv_const_sub, ht]
  simp only [Pi.mul_apply]
  ring

theorem JetOf.tanh {x : List ℝ} {X : ℝ → ℝ} (hx : JetOf x X) :
    JetOf (tanhsech2S (Real.tanh (X 0)) (1 - Real.tanh (X 0) * Real.tanh (X 0)) x).1 (fun t => Real.tanh (X t)) := hx.tanhsech2.1

/-- `_pair`: `JetOf.arctan`, `JetOf.arcsin`, `JetOf.arccos` name the first component alone -/
theorem JetOf.arctan_pair {x : List ℝ} {X : ℝ → ℝ} (hx : JetOf x X) :
    JetOf (arctanS (Real.arctan (X 0)) x).1 (fun t => Real.arctan (X t))
    ∧ JetOf (arctanS (Real.arctan (X 0)) x).2 (fun t => 1 + X t * X t) := by
  have hY := smooth0_comp hx.smooth Real.contDiff_arctan.contDiffAt
  have hZ : Smooth0 (fun t => 1 + X t * X t) := contDiffAt_const.add (hx.smooth.mul hx.smooth)
  have dY : deriv (fun t => Real.arctan (X t)) * (fun t => 1 + X t * X t) =ᶠ[𝓝 0] deriv X := by
    filter_upwards [deriv_comp_of_hasDerivAt hx.smooth (.of_forall Real.hasDerivAt_arctan)] with t ht
    have : (1:ℝ) + X t * X t ≠ 0 := (add_pos_of_pos_of_nonneg one_pos (mul_self_nonneg _)).ne'
    rw [Pi.mul_apply, ht, Pi.mul_apply, ← sq, mul_assoc, one_div, inv_mul_cancel₀ (by rwa [sq]), mul_one]
  have dZ : deriv (fun t => 1 + X t * X t) =ᶠ[𝓝 0] deriv X * fun t => 2 * X t := by
    simpa only [deriv_const_add'] using deriv_mul_self_of_smooth0 hx.smooth
  have hZ0 : tc (fun t => 1 + X t * X t) 0 ≠ 0 := by
    rw [tc_zero]; exact (add_pos_of_pos_of_nonneg one_pos (mul_self_nonneg _)).ne'
  refine JetOf.pair_of_eq_map_range hY hZ (build_ite_eq_map_range
    (fun h => by rw [tc_zero, tc_zero, hx.zero h]) fun d hd => ?_)
  simp (disch := omega) only [List.length_map, List.length_range, getD_map_range, hx.coeff]
  rw [tc_succ_of_deriv_mul_eq hY hZ hZ0 dY, tc_deriv,
    tc_succ_of_deriv_eq_mul hx.smooth (contDiffAt_const.mul hx.smooth) dZ, mul_sumRange]
  simp only [tc_const_mul, nat_eq, Nat.cast_ofNat, mul_left_comm _ (2:ℝ)]

theorem JetOf.arctan {x : List ℝ} {X : ℝ → ℝ} (hx : JetOf x X) :
    JetOf (arctanS (Real.arctan (X 0)) x).1 (fun t => Real.arctan (X t)) := hx.arctan_pair.1

/-- `_arcsin` and `_arccos` run one recurrence, for the coupled system `Y' Z = X'`, `Z' = -X Y'`, from the base values of
`(arcsin ∘ X, cos ∘ arcsin ∘ X)` and of `(arccos ∘ X, -sin ∘ arccos ∘ X)`.  Applied as `(arcsinS_jet hx hY hZ … :)`:
met with the goal first, Lean tries to read `Y`, `Z` off the base values `Y 0`, `Z 0`, which is slow. -/
theorem arcsinS_jet {x : List ℝ} {X Y Z : ℝ → ℝ} (hx : JetOf x X) (hY : Smooth0 Y) (hZ : Smooth0 Z) (hZ0 : Z 0 ≠ 0)
    (ode1 : deriv Y * Z =ᶠ[𝓝 0] deriv X) (ode2 : deriv Z =ᶠ[𝓝 0] deriv Y * -X) :
    JetOf (arcsinS (Y 0) (Z 0) x).1 Y ∧ JetOf (arcsinS (Y 0) (Z 0) x).2 Z := by
  have hZ0' : tc Z 0 ≠ 0 := by rwa [tc_zero]
  refine JetOf.pair_of_eq_map_range hY hZ (build_ite_eq_map_range (fun _ => by rw [tc_zero, tc_zero])
    fun d hd => ?_)
  simp (disch := omega) only [List.length_map, List.length_range, getD_map_range, hx.coeff]
  -- the fresh `y_{d+1}` is `tc Y (d+1)`, so `yy` is `tc Y` throughout
  have hy := tc_succ_of_deriv_mul_eq hY hZ hZ0' ode1 d
  rw [tc_deriv, ← nat_eq] at hy
  rw [← hy]
  simp (disch := omega) only [ite_eq_apply (tc Y)]
  rw [tc_succ_of_deriv_eq_mul hY hx.smooth.neg ode2]
  simp only [tc_neg, mul_neg, sumRange_eq, Finset.sum_neg_distrib]

theorem sqrt_one_sub_sq_ne_zero {c : ℝ} (h : -1 < c ∧ c < 1) : Real.sqrt (1 - c ^ 2) ≠ 0 :=
  (Real.sqrt_pos.mpr (sub_pos.mpr ((sq_lt_one_iff_abs_lt_one c).mpr (abs_lt.mpr h)))).ne'

theorem eventually_in_unit {X : ℝ → ℝ} (hX : ContinuousAt X 0) (h1 : -1 < X 0) (h2 : X 0 < 1) :
    ∀ᶠ t in 𝓝 (0:ℝ), -1 < X t ∧ X t < 1 :=
  (hX.eventually (lt_mem_nhds h1)).and (hX.eventually (gt_mem_nhds h2))

/-- the second output is `cos ∘ arcsin = √(1 - x²)` -/
theorem JetOf.arcsin_pair {x : List ℝ} {X : ℝ → ℝ} (hx : JetOf x X) (h1 : -1 < X 0) (h2 : X 0 < 1) :
    JetOf (arcsinS (Real.arcsin (X 0)) (Real.cos (Real.arcsin (X 0))) x).1 (fun t => Real.arcsin (X t))
    ∧ JetOf (arcsinS (Real.arcsin (X 0)) (Real.cos (Real.arcsin (X 0))) x).2
        (fun t => Real.cos (Real.arcsin (X t))) := by
  have hY := smooth0_comp hx.smooth (Real.contDiffAt_arcsin h1.ne' h2.ne)
  have hZ := smooth0_comp hY Real.contDiff_cos.contDiffAt
  have hu := eventually_in_unit hx.smooth.continuousAt h1 h2
  refine (arcsinS_jet hx hY hZ (by rw [Real.cos_arcsin]; exact sqrt_one_sub_sq_ne_zero ⟨h1, h2⟩) ?_ ?_ :)
  · filter_upwards [deriv_comp_of_hasDerivAt hx.smooth (Filter.eventually_of_mem (Ioo_mem_nhds h1 h2)
      fun y hy => Real.hasDerivAt_arcsin hy.1.ne' hy.2.ne), hu] with t ht hu
    rw [Pi.mul_apply, ht, Pi.mul_apply, Real.cos_arcsin, mul_assoc,
      one_div_mul_cancel (sqrt_one_sub_sq_ne_zero hu), mul_one]
  · filter_upwards [deriv_comp_of_hasDerivAt hY (.of_forall Real.hasDerivAt_cos), hu] with t ht hu
    rw [ht, Pi.mul_apply, Pi.mul_apply, Pi.neg_apply, Real.sin_arcsin hu.1.le hu.2.le]

theorem JetOf.arcsin {x : List ℝ} {X : ℝ → ℝ} (hx : JetOf x X) (h1 : -1 < X 0) (h2 : X 0 < 1) :
    JetOf (arcsinS (Real.arcsin (X 0)) (Real.cos (Real.arcsin (X 0))) x).1 (fun t => Real.arcsin (X t)) := (hx.arcsin_pair h1 h2).1

/-- the second output is `-sin ∘ arccos = -√(1 - x²)` -/
theorem JetOf.arccos_pair {x : List ℝ} {X : ℝ → ℝ} (hx : JetOf x X) (h1 : -1 < X 0) (h2 : X 0 < 1) :
    JetOf (arcsinS (Real.arccos (X 0)) (-Real.sin (Real.arccos (X 0))) x).1 (fun t => Real.arccos (X t))
    ∧ JetOf (arcsinS (Real.arccos (X 0)) (-Real.sin (Real.arccos (X 0))) x).2
        (fun t => -Real.sin (Real.arccos (X t))) := by
  have hY := smooth0_comp hx.smooth (Real.contDiffAt_arccos h1.ne' h2.ne)
  have hZ : Smooth0 (fun t => -Real.sin (Real.arccos (X t))) := (smooth0_comp hY Real.contDiff_sin.contDiffAt).neg
  have hu := eventually_in_unit hx.smooth.continuousAt h1 h2
  refine (arcsinS_jet hx hY hZ (by rw [Real.sin_arccos, neg_ne_zero]; exact sqrt_one_sub_sq_ne_zero ⟨h1, h2⟩) ?_ ?_ :)
  · filter_upwards [deriv_comp_of_hasDerivAt hx.smooth (Filter.eventually_of_mem (Ioo_mem_nhds h1 h2)
      fun y hy => Real.hasDerivAt_arccos hy.1.ne' hy.2.ne), hu] with t ht hu
    rw [Pi.mul_apply, ht, Pi.mul_apply, Real.sin_arccos, mul_assoc, neg_mul_neg,
      one_div_mul_cancel (sqrt_one_sub_sq_ne_zero hu), mul_one]
  · filter_upwards [deriv_comp_of_hasDerivAt (f := fun y => -Real.sin y) hY
      (.of_forall fun y => (Real.hasDerivAt_sin y).neg), hu] with t ht hu
    rw [ht, Pi.mul_apply, Pi.mul_apply, Pi.neg_apply, Real.cos_arccos hu.1.le hu.2.le]

theorem JetOf.arccos {x : List ℝ} {X : ℝ → ℝ} (hx : JetOf x X) (h1 : -1 < X 0) (h2 : X 0 < 1) :
    JetOf (arcsinS (Real.arccos (X 0)) (-Real.sin (Real.arccos (X 0))) x).1 (fun t => Real.arccos (X t)) := (hx.arccos_pair h1 h2).1

end AV
