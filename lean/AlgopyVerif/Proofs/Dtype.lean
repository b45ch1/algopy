import AlgopyVerif.Model.Dtype
/-!
# dtype calculus: the result is complex exactly when an operand is

Every branch of `resultDT` is built from `promote`, `weakPromote` and `divDT`, and each of these returns `c128` iff
one of its arguments is `c128`.
-/
namespace AV

theorem DT.promote_eq_c128 (a b : DT) : a.promote b = .c128 ↔ a = .c128 ∨ b = .c128 := by
  cases a <;> cases b <;> simp [DT.promote]

theorem OKind.isComplex_iff (k : OKind) : k.isComplex = true ↔ k.asDT = .c128 := by
  rcases k with (_|_|_)|_|_|_|(_|_|_)|(_|_|_) <;> simp [OKind.isComplex, OKind.asDT]

theorem weakPromote_eq_c128 (self : DT) (k : OKind) :
    weakPromote self k = .c128 ↔ self = .c128 ∨ k.asDT = .c128 := by
  cases k <;> simp [weakPromote, DT.promote_eq_c128, OKind.asDT]

theorem divDT_eq_c128 (d : DT) : divDT d = .c128 ↔ d = .c128 := by
  cases d <;> simp [divDT]

theorem resultDT_eq_c128 (op : AOp) (self : DT) (k : OKind) (r : Bool) :
    resultDT op self k r = .c128 ↔ self = .c128 ∨ k.isComplex = true := by
  rw [OKind.isComplex_iff]
  unfold resultDT
  split <;> simp only [DT.promote_eq_c128, weakPromote_eq_c128, divDT_eq_c128, OKind.asDT]
  -- the reflected division promotes with `self` twice
  exact ⟨fun h => h.elim id Or.inl, Or.inl⟩

end AV
