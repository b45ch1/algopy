import AlgopyVerif.Model.Pade
import AlgopyVerif.Proofs.Build
import Mathlib.RingTheory.PowerSeries.Exp
/-!
# The Padé tables of `expm_pade` match the exponential series to order `2q`

For `q ∈ {3, 5, 7, 9, 13}` let `N(x) = Σ_k b_k x^k` (`padePoly`, `padeNps`) and `D(x) = Σ_k b_k (−x)^k` (`padeDps`) with the code's
table `b = padeB q`.  `pade_order`: coefficient `m` of `N − D·exp` vanishes for all `m ≤ 2q` (exact rational arithmetic in the
kernel: the tables are finite data); `C07.expm_pade_tables_match_exp` restates it in `ℚ⟦X⟧` with Mathlib's `PowerSeries.exp`.
-/
namespace AV
open Finset

theorem foldl_add_range {K : Type} [AddCommMonoid K] (g : ℕ → K) (n : ℕ) :
    (List.range n).foldl (fun s k => s + g k) 0 = ∑ k ∈ range n, g k :=
  foldl_range_eq (fun s k => s + g k) (fun k => ∑ i ∈ range k, g i) n fun k _ => (sum_range_succ g k).symm

def padePoly (q : Nat) (x : ℚ) : ℚ := ∑ k ∈ range (q + 1), bq q k * x ^ k

theorem pade_order : ∀ q ∈ [3, 5, 7, 9, 13], ∀ m, m ≤ 2 * q → padeDefect q m = 0 := by decide +kernel

theorem factQ_eq (n : Nat) : factQ n = (n.factorial : ℚ) := by
  induction n with
  | zero => simp [factQ]
  | succ n ih => simp [factQ, Nat.factorial_succ, ih]

open PowerSeries in
noncomputable def padeNps (q : Nat) : ℚ⟦X⟧ := PowerSeries.mk fun k => bq q k
open PowerSeries in
noncomputable def padeDps (q : Nat) : ℚ⟦X⟧ := PowerSeries.mk fun k => if k % 2 = 0 then bq q k else - bq q k

end AV
