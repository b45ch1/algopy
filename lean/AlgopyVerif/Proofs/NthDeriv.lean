import AlgopyVerif.Model.NthDeriv
import AlgopyVerif.Proofs.Build
import Mathlib.Analysis.SpecialFunctions.Sqrt
import Mathlib.Analysis.SpecialFunctions.Trigonometric.DerivHyp
import Mathlib.Analysis.SpecialFunctions.Pow.Deriv
/-!
# Closed-form n-th derivatives are the iterated derivatives

`iteratedDeriv_of_chain` is the property's own formulation: order 0 is the function and order `n+1` is the derivative of
order `n`.  Most closed forms of `nthderiv.py` are `if n = 0 then leaf else (closed form of f' at order n-1)`; as order
`n+1` of `f` is order `n` of `f'` (`iteratedDeriv_eq_of_hasDerivAt`) they reduce to a fact about `f'` alone, which for
the elementary functions is in Mathlib.
-/
open Filter Topology

namespace AV

theorem iteratedDeriv_of_chain (S : Set ℝ) (hS : IsOpen S) (F : ℕ → ℝ → ℝ)
    (h : ∀ n x, x ∈ S → HasDerivAt (F n) (F (n+1) x) x) :
    ∀ n x, x ∈ S → iteratedDeriv n (F 0) x = F n x := by
  intro n
  induction n with
  | zero => intro x _; simp
  | succ n ih =>
    intro x hx
    rw [iteratedDeriv_succ]
    have heq : iteratedDeriv n (F 0) =ᶠ[𝓝 x] F n := by
      filter_upwards [hS.mem_nhds hx] with y hy using ih y hy
    rw [heq.deriv_eq]
    exact (h n x hx).deriv

/-- `n` stands before `h0` and `hF` so that `F` is read off the goal before they are elaborated -/
theorem iteratedDeriv_eq_of_hasDerivAt {S : Set ℝ} (hS : IsOpen S) {f g : ℝ → ℝ} (h : ∀ y ∈ S, HasDerivAt f (g y) y)
    {x : ℝ} (hx : x ∈ S) {F : ℕ → ℝ} (n : ℕ) (h0 : F 0 = f x) (hF : ∀ n, iteratedDeriv n g x = F (n + 1)) :
    iteratedDeriv n f x = F n := by
  cases n with
  | zero => exact h0.symm
  | succ n =>
    rw [iteratedDeriv_succ', ← hF]
    exact EventuallyEq.iteratedDeriv_eq n (by filter_upwards [hS.mem_nhds hx] with y hy using (h y hy).deriv)

theorem powN_eq (x : ℝ) (n : ℕ) : powN x n = x ^ n := by
  induction n with
  | zero => rfl
  | succ n ih => rw [powN, ih, pow_succ]

theorem negOnePow_eq (n : ℕ) : (negOnePow n : ℝ) = (-1) ^ n := by
  rw [negOnePow, neg_one_pow_eq_ite]; simp only [Nat.even_iff]

theorem pochK_eq {K : Type} [Semiring K] (a : K) (n : ℕ) : pochK a n = (ascPochhammer K n).eval a := by
  induction n with
  | zero => simp [pochK]
  | succ n ih => rw [pochK, ih, ascPochhammer_succ_eval, nat_eq]

/-- at every point: both sides are `0` at `0` -/
theorem iteratedDeriv_inv_eq_dReciprocal (n : ℕ) (x : ℝ) : iteratedDeriv n Inv.inv x = dReciprocal x n := by
  rw [iteratedDeriv_eq_iterate, iter_deriv_inv, dReciprocal, powN_eq, negOnePow_eq, fact_eq, nat_eq,
    show (-1 - (n : ℤ)) = -((n + 1 : ℕ) : ℤ) by push_cast; ring, zpow_neg, zpow_natCast, div_eq_mul_inv]

/-- the shape of `nthderiv.sqrt` (`r = 1/2`) -/
theorem iteratedDeriv_rpow (r : ℝ) (n : ℕ) (x : ℝ) (hx : 0 < x) :
    iteratedDeriv n (fun y : ℝ => y ^ r) x = pochK (r + 1 - n) n * (x ^ r / x ^ n) := by
  rw [iteratedDeriv_eq_iterate, Real.iter_deriv_rpow_const, Real.rpow_sub hx, Real.rpow_natCast, pochK_eq,
    descPochhammer_eval_eq_ascPochhammer, sub_add_eq_add_sub]

theorem dSin_succ (s c : ℝ) (n : ℕ) : dSin s c (n + 1) = dCos s c n := by
  have h : n % 4 = 0 ∨ n % 4 = 1 ∨ n % 4 = 2 ∨ n % 4 = 3 := by omega
  rcases h with h | h | h | h <;> simp [dSin, dCos, Nat.add_mod, h]

theorem dCos_succ (s c : ℝ) (n : ℕ) : dCos s c (n + 1) = -dSin s c n := by
  have h : n % 4 = 0 ∨ n % 4 = 1 ∨ n % 4 = 2 ∨ n % 4 = 3 := by omega
  rcases h with h | h | h | h <;> simp [dSin, dCos, Nat.add_mod, h]

theorem sin_cos_nth (n : ℕ) (x : ℝ) :
    iteratedDeriv n Real.sin x = dSin (Real.sin x) (Real.cos x) n ∧
    iteratedDeriv n Real.cos x = dCos (Real.sin x) (Real.cos x) n := by
  induction n with
  | zero => exact ⟨rfl, rfl⟩
  | succ n ih =>
    rw [Real.iteratedDeriv_add_one_sin, Real.iteratedDeriv_add_one_cos, dSin_succ, dCos_succ, Pi.neg_apply, ih.1, ih.2]
    exact ⟨rfl, rfl⟩

theorem sinh_cosh_nth (n : ℕ) (x : ℝ) :
    iteratedDeriv n Real.sinh x = dSinh (Real.sinh x) (Real.cosh x) n ∧
    iteratedDeriv n Real.cosh x = dCosh (Real.sinh x) (Real.cosh x) n := by
  induction n with
  | zero => exact ⟨rfl, rfl⟩
  | succ n ih =>
    rw [Real.iteratedDeriv_add_one_sinh, Real.iteratedDeriv_add_one_cosh, ih.1, ih.2]
    unfold dSinh dCosh
    rcases Nat.mod_two_eq_zero_or_one n with h | h <;> simp [Nat.add_mod, h]

/-- `gammaln`, `psi`, `polygamma`: pure index arithmetic once the leaves satisfy
`polygamma (k+1) = (polygamma k)'` and `gammaln' = polygamma 0` -/
theorem chain_polygamma (pgf : ℕ → ℝ → ℝ) (S : Set ℝ)
    (hpg : ∀ k x, x ∈ S → HasDerivAt (pgf k) (pgf (k+1) x) x) (m n : ℕ) (x : ℝ) (hx : x ∈ S) (N : ℕ) (hN : m + n + 1 < N) :
    HasDerivAt (fun y => dPolygamma m ((List.range N).map fun k => pgf k y) n)
      (dPolygamma m ((List.range N).map fun k => pgf k x) (n+1)) x := by
  unfold dPolygamma
  rw [co_map_range (by omega), funext fun y => co_map_range (f := fun k => pgf k y) (d := m + n) (show m + n < N by omega)]
  exact hpg (m + n) x hx

theorem hasDerivAt_hyperu (a : ℝ) (u : ℕ → ℝ → ℝ) {S : Set ℝ}
    (hu : ∀ k x, x ∈ S → HasDerivAt (u k) (-(a + k) * u (k+1) x) x) (n : ℕ) {x : ℝ} (hx : x ∈ S) :
    HasDerivAt (fun y => (negOnePow n : ℝ) * pochK a n * u n y)
      ((negOnePow (n+1) : ℝ) * pochK a (n+1) * u (n+1) x) x := by
  refine ((hu n x hx).const_mul ((negOnePow n : ℝ) * pochK a n)).congr_deriv ?_
  rw [negOnePow_eq, negOnePow_eq, pochK, pow_succ, nat_eq]
  ring

/-- `hyperu(a, b, ·)` under the contiguous relation `U'(a,b,x) = -a U(a+1,b+1,x)` of the leaves -/
theorem chain_hyperu (a : ℝ) (u : ℕ → ℝ → ℝ) (S : Set ℝ)
    (hu : ∀ k x, x ∈ S → HasDerivAt (u k) (-(a + k) * u (k+1) x) x) (n : ℕ) (x : ℝ) (hx : x ∈ S)
    (N : ℕ) (hN : n + 1 < N) :
    HasDerivAt (fun y => dHyperu a ((List.range N).map fun k => u k y) n)
      (dHyperu a ((List.range N).map fun k => u k x) (n+1)) x := by
  unfold dHyperu
  rw [co_map_range (by omega), funext fun y => congrArg _ (co_map_range (f := fun k => u k y) (show n < N by omega))]
  exact hasDerivAt_hyperu a u hu n hx

end AV
