import AlgopyVerif.Model.Convert
import Mathlib.LinearAlgebra.Matrix.Permutation
/-!
# LAPACK pivot vectors → permutation and determinant sign

`piv` (as returned by `scipy.linalg.lu_factor`) means: for `i = 0 … N-1` exchange rows `i` and
`piv i`.  `utils.piv2mat` builds the index vector `swap = τ₀ τ₁ … τ_{N-1}` (as a product of
transpositions `τ_i = (i  piv i)`) and the matrix `eye[:, swap]`; `utils.piv2det` returns
`(-1)^{#{i : piv i ≠ i}}`.
-/
open Equiv

namespace AV
variable {N : ℕ}

def pivPerm (piv : Fin N → Fin N) : Perm (Fin N) :=
  ((List.finRange N).map fun i => swap i (piv i)).prod

theorem sign_list_prod_swaps (l : List (Fin N)) (piv : Fin N → Fin N) :
    Perm.sign ((l.map fun i => swap i (piv i)).prod)
      = (-1 : ℤˣ) ^ (l.filter fun i => piv i ≠ i).length := by
  induction l with
  | nil => simp
  | cons a l ih =>
    rw [List.map_cons, List.prod_cons, Perm.sign_mul, ih, List.filter_cons]
    by_cases h : piv a = a
    · rw [h, swap_self, if_neg (by simp), Perm.sign_refl, one_mul]
    · rw [Perm.sign_swap (Ne.symm h), if_pos (by simpa using h), List.length_cons, pow_succ']

theorem getD_ofFn {α} (f : Fin N → α) (i : Fin N) (d : α) : (List.ofFn f).getD i.val d = f i := by
  simp [List.getD_eq_getElem?_getD]

theorem set_ofFn {α} (f : Fin N → α) (i : Fin N) (a : α) :
    (List.ofFn f).set i.val a = List.ofFn (Function.update f i a) := by
  refine List.ext_getElem (by simp) fun j h1 h2 => ?_
  simp only [List.getElem_set, List.getElem_ofFn, Function.update_apply, Fin.ext_iff, eq_comm]

/-- one iteration of the loop of `utils.piv2mat` -/
def pivStep (pl sw : List Nat) (i : Nat) : List Nat :=
  (sw.set i (sw.getD (pl.getD i 0) 0)).set (pl.getD i 0) (sw.getD i 0)

theorem pivSwap_eq (pl : List Nat) :
    pivSwap pl = (List.range pl.length).foldl (pivStep pl) (List.range pl.length) := rfl

/-- on an index vector given as a function, iteration `k` composes with the transposition `(k  piv k)` -/
theorem pivStep_ofFn (piv : Fin N → Fin N) (f : Fin N → ℕ) (k : Fin N) :
    pivStep (List.ofFn fun i => (piv i).val) (List.ofFn f) k.val = List.ofFn (f ∘ swap k (piv k)) := by
  rw [pivStep, getD_ofFn (fun i => (piv i).val), getD_ofFn, getD_ofFn, set_ofFn, set_ofFn, swap_comm,
    comp_swap_eq_update]

theorem foldl_pivStep (piv : Fin N → Fin N) (l : List (Fin N)) (σ : Perm (Fin N)) :
    (l.map Fin.val).foldl (pivStep (List.ofFn fun i => (piv i).val)) (List.ofFn fun j => (σ j).val)
      = List.ofFn fun j => ((σ * (l.map fun i => swap i (piv i)).prod) j).val := by
  induction l generalizing σ with
  | nil => simp
  | cons k l ih =>
    rw [List.map_cons, List.foldl_cons, pivStep_ofFn, List.map_cons, List.prod_cons, ← mul_assoc]
    exact ih (σ * swap k (piv k))

/-- `utils.piv2mat`'s index vector is the pivot permutation: `swap[j] = (τ₀ τ₁ … τ_{N-1})(j)` -/
theorem pivSwap_eq_pivPerm {N : ℕ} (piv : Fin N → Fin N) :
    pivSwap (List.ofFn fun i => (piv i).val) = List.ofFn fun j => (pivPerm piv j).val := by
  have h1 : (List.ofFn fun j : Fin N => ((1 : Perm (Fin N)) j).val) = List.range N := by
    rw [List.ofFn_eq_map]; exact List.map_coe_finRange_eq_range
  have h := foldl_pivStep piv (List.finRange N) 1
  rw [one_mul, List.map_coe_finRange_eq_range, h1] at h
  rw [pivSwap_eq, List.length_ofFn, h, pivPerm]

end AV
