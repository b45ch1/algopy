import AlgopyVerif.Proofs.NthDeriv
import Mathlib.Topology.Instances.Sign
/-!
# n-th derivatives of the piecewise-constant / piecewise-linear functions away from their jumps and kinks
-/
open Filter Topology Set

namespace AV

/-- stated with `dClip`, whose shape `dAbsolute`, `dNegative` and (with `a = 0`) `dStep` share -/
theorem iteratedDeriv_of_locally_affine {f : ℝ → ℝ} {x : ℝ} (a b : ℝ) (h : f =ᶠ[𝓝 x] fun y => a * y + b) (n : ℕ) :
    iteratedDeriv n f x = dClip (f x) a n := by
  rw [h.iteratedDeriv_eq, h.eq_of_nhds]
  refine iteratedDeriv_eq_of_hasDerivAt (g := fun _ => a) isOpen_univ
    (fun y _ => by simpa using ((hasDerivAt_id y).const_mul a).add_const b) (mem_univ x) n rfl fun n => ?_
  rw [iteratedDeriv_const]; cases n <;> rfl

theorem iteratedDeriv_of_locally_const {f : ℝ → ℝ} {x : ℝ} (h : f =ᶠ[𝓝 x] fun _ => f x) (n : ℕ) :
    iteratedDeriv n f x = dClip (f x) 0 n :=
  iteratedDeriv_of_locally_affine 0 (f x) (by simpa only [zero_mul, zero_add] using h) n

theorem floor_locally_const (x : ℝ) (hx : ∀ k : ℤ, x ≠ k) :
    (fun y : ℝ => (⌊y⌋ : ℝ)) =ᶠ[𝓝 x] fun _ => (⌊x⌋ : ℝ) := by
  have hlt : (⌊x⌋ : ℝ) < x := lt_of_le_of_ne (Int.floor_le x) (fun e => hx ⌊x⌋ e.symm)
  have hgt : x < (⌊x⌋ : ℝ) + 1 := Int.lt_floor_add_one x
  filter_upwards [Ioo_mem_nhds hlt hgt] with y hy
  have : ⌊y⌋ = ⌊x⌋ := Int.floor_eq_iff.mpr ⟨hy.1.le, hy.2⟩
  rw [this]

theorem ceil_locally_const (x : ℝ) (hx : ∀ k : ℤ, x ≠ k) :
    (fun y : ℝ => (⌈y⌉ : ℝ)) =ᶠ[𝓝 x] fun _ => (⌈x⌉ : ℝ) := by
  have hlt : x < (⌈x⌉ : ℝ) := lt_of_le_of_ne (Int.le_ceil x) (fun e => hx ⌈x⌉ e)
  have hgt : (⌈x⌉ : ℝ) - 1 < x := sub_lt_iff_lt_add.mpr (Int.ceil_lt_add_one x)
  filter_upwards [Ioo_mem_nhds hgt hlt] with y hy
  have : ⌈y⌉ = ⌈x⌉ := Int.ceil_eq_iff.mpr ⟨hy.1, hy.2.le⟩
  rw [this]

theorem eventually_sign_eq_nhds {x : ℝ} (hx : x ≠ 0) : ∀ᶠ y in 𝓝 x, SignType.sign y = SignType.sign x :=
  (continuousAt_sign_of_ne_zero hx).eventually (p := (· = SignType.sign x)) (mem_nhds_discrete.mpr rfl)

theorem sign_locally_const (x : ℝ) (hx : x ≠ 0) :
    (fun y : ℝ => (SignType.sign y : ℝ)) =ᶠ[𝓝 x] fun _ => (SignType.sign x : ℝ) :=
  (eventually_sign_eq_nhds hx).mono fun _ hy => congrArg _ hy

theorem abs_locally_affine (x : ℝ) (hx : x ≠ 0) :
    (fun y : ℝ => |y|) =ᶠ[𝓝 x] fun y => (SignType.sign x : ℝ) * y + 0 :=
  (eventually_sign_eq_nhds hx).mono fun y hy => by simp only [← hy, sign_mul_self, add_zero]

theorem clip_locally_id (lo hi x : ℝ) (h1 : lo < x) (h2 : x < hi) :
    (fun y : ℝ => min (max y lo) hi) =ᶠ[𝓝 x] fun y => 1 * y + 0 := by
  filter_upwards [Ioo_mem_nhds h1 h2] with y hy
  rw [max_eq_left (le_of_lt hy.1), min_eq_left (le_of_lt hy.2)]; ring

theorem clip_locally_const_lo (lo hi x : ℝ) (h1 : x < lo) :
    (fun y : ℝ => min (max y lo) hi) =ᶠ[𝓝 x] fun _ => min (max x lo) hi := by
  filter_upwards [Iio_mem_nhds h1] with y hy
  rw [max_eq_right (le_of_lt hy), max_eq_right (le_of_lt h1)]

theorem clip_locally_const_hi (lo hi x : ℝ) (h2 : hi < x) :
    (fun y : ℝ => min (max y lo) hi) =ᶠ[𝓝 x] fun _ => min (max x lo) hi := by
  filter_upwards [Ioi_mem_nhds h2] with y (hy : hi < y)
  rw [min_eq_right (hy.le.trans (le_max_left _ _)), min_eq_right (h2.le.trans (le_max_left _ _))]

theorem round_locally_const (x : ℝ) (hx : ∀ k : ℤ, x + 1 / 2 ≠ k) :
    (fun y : ℝ => (⌊y + 1 / 2⌋ : ℝ)) =ᶠ[𝓝 x] fun _ => (⌊x + 1 / 2⌋ : ℝ) := by
  have h := floor_locally_const (x + 1 / 2) hx
  have hc : Tendsto (fun y : ℝ => y + 1 / 2) (𝓝 x) (𝓝 (x + 1 / 2)) :=
    (continuous_id.add continuous_const).tendsto x
  exact hc.eventually h

end AV
