import AlgopyVerif.Model.Index
import AlgopyVerif.Proofs.NdArray
import Mathlib.Tactic.SplitIfs
/-!
# Basic indexing as an index map: what `getitemMap` returns, the `(:, :) ++ idx` prefix law, injectivity of every
index map (strides are non-zero and no result index is sent to a negative source coordinate), and item assignment
through it: exactly the selected cells change, in every coefficient slice separately
-/
namespace AV

theorem getitemMap_eq_some {shape : List Nat} {idx : List Idx} {s : List Nat} {m : List Nat → List Nat} :
    getitemMap shape idx = some (s, m) ↔
      ∃ idx', expandEllipsis shape.length idx = some idx' ∧
        ∃ plan, planAxes shape idx' = some plan ∧ planShape plan = s ∧ planSrc plan = m := by
  simp only [getitemMap, Option.bind_eq_bind, Option.pure_def, Option.bind_eq_some_iff, Option.some.injEq, Prod.mk.injEq]

/-! ## the `(:, :) ++ idx` prefix law -/

theorem sliceIndices_full (n : Nat) : sliceIndices n none none none = some (0, 1, n) := by
  simp [sliceIndices]
  omega

@[simp] theorem nConsuming_full (idx : List Idx) : nConsuming (fullSl :: idx) = nConsuming idx + 1 := by
  simp [nConsuming, fullSl, List.filter_cons, Idx.consuming]

@[simp] theorem nEllipsis_full (idx : List Idx) : nEllipsis (fullSl :: idx) = nEllipsis idx := by
  simp [nEllipsis, fullSl, Idx.isEllipsis]

@[simp] theorem fillEllipsis_full (fill idx : List Idx) : fillEllipsis fill (fullSl :: idx) = fullSl :: fillEllipsis fill idx := by
  simp [fillEllipsis, fullSl]

theorem expandEllipsis_cons_full {ndim : Nat} {idx idx' : List Idx} (h : expandEllipsis ndim idx = some idx') :
    expandEllipsis (ndim + 1) (fullSl :: idx) = some (fullSl :: idx') := by
  unfold expandEllipsis at h ⊢
  simp only [nConsuming_full, nEllipsis_full, fillEllipsis_full, Nat.add_sub_add_right, gt_iff_lt,
    Nat.add_lt_add_iff_right]
  split_ifs at h ⊢ <;> cases h <;> rfl

theorem planAxes_cons_full (n : Nat) {s : List Nat} {idx : List Idx} {plan : List AxisMap}
    (h : planAxes s idx = some plan) : planAxes (n :: s) (fullSl :: idx) = some (.run 0 1 n :: plan) := by
  simp [planAxes, fullSl, sliceIndices_full, h]

theorem getitemMap_prefix (D P : Nat) {s : List Nat} {idx : List Idx} {s' : List Nat} {m : List Nat → List Nat}
    (h : getitemMap s idx = some (s', m)) :
    ∃ m', getitemMap (D :: P :: s) (fullSl :: fullSl :: idx) = some (D :: P :: s', m') ∧
      ∀ d p j, m' (d :: p :: j) = d :: p :: m j := by
  obtain ⟨idx', he, plan, hp, rfl, rfl⟩ := getitemMap_eq_some.mp h
  exact ⟨_, getitemMap_eq_some.mpr ⟨_, expandEllipsis_cons_full (expandEllipsis_cons_full he), _,
    planAxes_cons_full D (planAxes_cons_full P hp), by simp [planShape], rfl⟩,
    fun d p j => by simp [planSrc]⟩

/-! ## the index map of every basic index expression is injective -/

/-- what injectivity of the index map needs of a slice axis: a non-zero stride and no negative source coordinate -/
def AxisOK : AxisMap → Prop
  | .run start step cnt => step ≠ 0 ∧ ∀ k : Nat, k < cnt → 0 ≤ start + step * (k : Int)
  | _ => True

/-- a descending run of `⌈(start - T) / q⌉` steps that stops above `T ≥ -1` stays non-negative:
`k + 1 ≤ (start - T + q - 1) / q` gives `q (k + 1) ≤ start - T + q - 1`.  The `if` stays in the hypothesis: `split` on
the unfolded `sliceIndices` would take the `match lo` inside it first. -/
theorem neg_step_nonneg {start T q : Int} {k : Nat} (hq : 0 < q) (hT : -1 ≤ T)
    (hk : k < if start > T then ((start - T + q - 1) / q).toNat else 0) : 0 ≤ start - q * (k : Int) := by
  split at hk
  · have h := (Int.le_ediv_iff_mul_le hq).mp (Int.add_one_le_of_lt (Int.lt_toNat.mp hk))
    rw [Int.add_mul, Int.one_mul, Int.mul_comm] at h
    omega
  · exact absurd hk (Nat.not_lt_zero k)

theorem sliceIndices_ok {n : Nat} {lo hi step : Option Int} {start st : Int} {cnt : Nat}
    (h : sliceIndices n lo hi step = some (start, st, cnt)) : AxisOK (.run start st cnt) := by
  unfold sliceIndices at h
  by_cases h0 : step.getD 1 = 0
  · simp [h0] at h
  rw [if_neg h0] at h
  by_cases hpos : step.getD 1 > 0
  · rw [if_pos hpos] at h
    obtain ⟨rfl, rfl, -⟩ := h
    refine ⟨h0, fun k _ => Int.add_nonneg ?_ (Int.mul_nonneg (Int.le_of_lt hpos) (Int.natCast_nonneg k))⟩
    cases lo with
    | none => exact Int.le_refl 0
    | some v => simp only; omega
  · rw [if_neg hpos] at h
    obtain ⟨rfl, rfl, rfl⟩ := h
    refine ⟨h0, fun k hk => ?_⟩
    have := neg_step_nonneg (by omega) ?_ hk
    · rwa [Int.neg_mul, Int.sub_neg] at this
    · cases hi with
      | none => exact Int.le_refl _
      | some v => simp only; omega

theorem planAxes_ok {shape : List Nat} {idx : List Idx} :
    ∀ plan, planAxes shape idx = some plan → ∀ a ∈ plan, AxisOK a := by
  fun_induction planAxes shape idx with
  | case1 => simp  -- no axis, no index
  | case2 shape rest ih =>  -- newaxis
    intro plan h
    obtain ⟨r, hr, ⟨⟩⟩ := Option.bind_eq_some_iff.mp h
    exact List.forall_mem_cons.mpr ⟨trivial, ih r hr⟩
  | case3 => simp  -- int index out of range
  | case4 n shape i rest N j hj ih =>  -- int index
    intro plan h
    obtain ⟨r, hr, ⟨⟩⟩ := Option.bind_eq_some_iff.mp h
    exact List.forall_mem_cons.mpr ⟨trivial, ih r hr⟩
  | case5 n shape lo hi st rest ih =>  -- slice
    intro plan h
    obtain ⟨⟨start, step, cnt⟩, hsl, h⟩ := Option.bind_eq_some_iff.mp h
    obtain ⟨r, hr, ⟨⟩⟩ := Option.bind_eq_some_iff.mp h
    exact List.forall_mem_cons.mpr ⟨sliceIndices_ok hsl, ih r hr⟩
  | case6 => simp  -- index and shape do not fit

theorem planSrc_injective : ∀ {plan : List AxisMap}, (∀ a ∈ plan, AxisOK a) →
    ∀ {j j'}, ValidIdx (planShape plan) j → ValidIdx (planShape plan) j' → planSrc plan j = planSrc plan j' → j = j'
  | [], _, [], [], _, _, _ => rfl
  | .fixed _ :: _, hok, _, _, hj, hj', he =>
    planSrc_injective (List.forall_mem_cons.mp hok).2 hj hj' (List.cons.inj he).2
  | .newax :: _, hok, k :: _, k' :: _, hj, hj', he => by
    obtain rfl : k = k' := by have := hj.1; have := hj'.1; omega
    rw [planSrc_injective (List.forall_mem_cons.mp hok).2 hj.2 hj'.2 he]
  | .run start step cnt :: _, hok, k :: _, k' :: _, hj, hj', he => by
    obtain ⟨⟨hstep, hnn⟩, hrest⟩ := List.forall_mem_cons.mp hok
    obtain ⟨he1, he2⟩ := List.cons.inj he
    have e : start + step * (k : Int) = start + step * (k' : Int) := by
      rw [← Int.toNat_of_nonneg (hnn k hj.1), ← Int.toNat_of_nonneg (hnn k' hj'.1), he1]
    obtain rfl : k = k' := Int.ofNat_inj.mp (Int.eq_of_mul_eq_mul_left hstep (Int.add_left_cancel e))
    rw [planSrc_injective hrest hj.2 hj'.2 he2]

theorem getitemMap_injective {shape : List Nat} {idx : List Idx} {s : List Nat} {m : List Nat → List Nat}
    (h : getitemMap shape idx = some (s, m)) {j j' : List Nat} :
    ValidIdx s j → ValidIdx s j' → m j = m j' → j = j' := by
  obtain ⟨idx', -, plan, hp, rfl, rfl⟩ := getitemMap_eq_some.mp h
  exact planSrc_injective (planAxes_ok plan hp)

section
variable {α : Type} [Inhabited α] {a b : NdArray α} {idx : List Idx} {val : List Nat → α} {s : List Nat}
  {m : List Nat → List Nat}

theorem setitemWith_get (hm : getitemMap a.shape idx = some (s, m)) (hb : setitemWith a idx val = some b)
    {i : List Nat} (hi : ValidIdx a.shape i) :
    b.shape = a.shape ∧
    b.get i = match (allIdx s).reverse.find? (fun j => m j == i) with
      | some j => val j
      | none => a.get i := by
  unfold setitemWith at hb
  rw [hm] at hb
  cases hb
  exact ⟨rfl, get_ofFn _ _ _ hi⟩

theorem setitemWith_hit (hm : getitemMap a.shape idx = some (s, m)) (hb : setitemWith a idx val = some b)
    {j : List Nat} (hj : ValidIdx s j) (hi : ValidIdx a.shape (m j)) : b.get (m j) = val j := by
  rw [(setitemWith_get hm hb hi).2]
  cases hf : (allIdx s).reverse.find? (fun j' => m j' == m j) with
  | none => simpa using List.find?_eq_none.mp hf j (by simpa [mem_allIdx] using hj)
  | some j' =>
    have hv : ValidIdx s j' := by simpa [mem_allIdx] using List.mem_of_find?_eq_some hf
    rw [getitemMap_injective hm hv hj (by simpa using List.find?_some hf)]

theorem setitemWith_miss (hm : getitemMap a.shape idx = some (s, m)) (hb : setitemWith a idx val = some b)
    {i : List Nat} (hi : ValidIdx a.shape i) (hmiss : ∀ j, ValidIdx s j → m j ≠ i) : b.get i = a.get i := by
  rw [(setitemWith_get hm hb hi).2]
  cases hf : (allIdx s).reverse.find? (fun j' => m j' == i) with
  | none => rfl
  | some j' =>
    have hv : ValidIdx s j' := by simpa [mem_allIdx] using List.mem_of_find?_eq_some hf
    exact absurd (by simpa using List.find?_some hf) (hmiss j' hv)

end

section
variable {α : Type} [Inhabited α] {x y : NdArray α} {D P : Nat} {s s' : List Nat} {idx : List Idx} {m : List Nat → List Nat}
  {val : List Nat → α}

theorem setitemWith_slicewise (hx : x.shape = D :: P :: s) (hm : getitemMap s idx = some (s', m))
    (hy : setitemWith x (fullSl :: fullSl :: idx) val = some y) {d p : Nat} (hd : d < D) (hp : p < P) :
    (∀ j, ValidIdx s' j → ValidIdx s (m j) → y.get (d :: p :: m j) = val (d :: p :: j))
    ∧ (∀ i, ValidIdx s i → (∀ j, ValidIdx s' j → m j ≠ i) → y.get (d :: p :: i) = x.get (d :: p :: i)) := by
  obtain ⟨m', hm', hlaw⟩ := getitemMap_prefix D P hm
  rw [← hx] at hm'
  constructor
  · intro j hj hmj
    rw [← hlaw]
    exact setitemWith_hit hm' hy (j := d :: p :: j) ⟨hd, hp, hj⟩ (by rw [hlaw, hx]; exact ⟨hd, hp, hmj⟩)
  · intro i hi hmiss
    refine setitemWith_miss hm' hy (by rw [hx]; exact ⟨hd, hp, hi⟩) ?_
    rintro (_ | ⟨d', _ | ⟨p', j⟩⟩) hv he
    · exact hv
    · exact hv.2
    · rw [hlaw] at he
      exact hmiss j hv.2.2 (List.cons.inj (List.cons.inj he).2).2
end

end AV
