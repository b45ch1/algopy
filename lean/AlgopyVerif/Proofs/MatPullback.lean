import Mathlib.LinearAlgebra.Matrix.Trace
/-!
# The pairing of the matrix pullback kernels (`_dot_pullback`, `_inv_pullback`, `_solve_pullback`, `pb_trace`, `pb_det`,
`_eigh_pullback`, transpose), over any commutative ring `S`

`S` is instantiated with the truncated series ring `ℝ[t]/(t^D)` (one direction): the entries of the
matrices are Taylor polynomials and every identity holds modulo `t^D`.  Pairing `⟪A, B⟫ = tr(Aᵀ B)`.
The adjoint identities of C03 have the form `⟪Ybar, dY⟫ = Σ ⟪Xbar_i, dX_i⟫` where `dY` is the tangent of the operation
and `Xbar_i` the formulas the kernels accumulate; each is read off by moving the factors of `dY` across the pairing:
left multiplication by `B` moves as `Bᵀ` (`pair_mul_left`), right multiplication by `C` as `Cᵀ` (`pair_mul_right`, the one place
where the trace is cyclic), a Hadamard factor moves as it is (`pair_had`).
-/
open Matrix

namespace AV.MatPB
variable {S : Type} [CommRing S] {n m k : Type} [Fintype n] [Fintype m] [Fintype k]

/-- `⟪A, B⟫ = tr(Aᵀ B) = Σ_ij A_ij B_ij` -/
def pair (A B : Matrix n m S) : S := (Aᵀ * B).trace

theorem pair_eq_sum (A B : Matrix n m S) : pair A B = ∑ i, ∑ j, A i j * B i j := by
  unfold pair
  simp only [Matrix.trace, Matrix.diag, Matrix.mul_apply, Matrix.transpose_apply]
  rw [Finset.sum_comm]

theorem pair_add_right (A B C : Matrix n m S) : pair A (B + C) = pair A B + pair A C := by
  rw [pair, Matrix.mul_add, trace_add]; rfl

theorem pair_add_left (A B C : Matrix n m S) : pair (A + B) C = pair A C + pair B C := by
  rw [pair, transpose_add, Matrix.add_mul, trace_add]; rfl

theorem pair_neg_right (A B : Matrix n m S) : pair A (-B) = -pair A B := by
  rw [pair, Matrix.mul_neg, trace_neg]; rfl

theorem pair_neg_left (A B : Matrix n m S) : pair (-A) B = -pair A B := by
  rw [pair, transpose_neg, Matrix.neg_mul, trace_neg]; rfl

theorem pair_smul_left (c : S) (A B : Matrix n m S) : pair (c • A) B = c * pair A B := by
  rw [pair, transpose_smul, Matrix.smul_mul, trace_smul, smul_eq_mul]; rfl

theorem pair_mul_left (A : Matrix n k S) (B : Matrix n m S) (C : Matrix m k S) : pair A (B * C) = pair (Bᵀ * A) C := by
  rw [pair, pair, transpose_mul, transpose_transpose, Matrix.mul_assoc]

theorem pair_mul_right (A : Matrix n k S) (B : Matrix n m S) (C : Matrix m k S) : pair A (B * C) = pair (A * Cᵀ) B := by
  rw [pair, pair, transpose_mul, transpose_transpose, ← Matrix.mul_assoc, trace_mul_comm, ← Matrix.mul_assoc]

theorem pair_transpose (A B : Matrix n m S) : pair Aᵀ Bᵀ = pair A B := by
  rw [pair, pair, ← transpose_mul, trace_transpose, trace_mul_comm]

/-- the adjoint of `dX ↦ tr(Y dX)` is `Yᵀ` (`pb_trace`: `Y = 1`; `pb_det`: `Y = adj X`) -/
theorem pair_transpose_eq_trace (Y dX : Matrix n n S) : pair Yᵀ dX = (Y * dX).trace := by
  rw [pair, transpose_transpose]

theorem pair_conj (Q X Y : Matrix n n S) : pair X (Qᵀ * Y * Q) = pair (Q * X * Qᵀ) Y := by
  rw [pair_mul_right, pair_mul_left, transpose_transpose, Matrix.mul_assoc]

omit [Fintype k] in
/-- the tangent of `solve` (from `X Z = B` linearised, `dX Z + X dZ = dB`), used by the adjoint identities of C03 -/
theorem solve_tangent [DecidableEq n] (X Y dX : Matrix n n S) (Z dZ dB : Matrix n k S) (hYX : Y * X = 1)
    (hlin : dX * Z + X * dZ = dB) : dZ = Y * (dB - dX * Z) := by
  rw [← hlin, add_sub_cancel_left, ← Matrix.mul_assoc, hYX, Matrix.one_mul]

/-- Hadamard product -/
def had (A B : Matrix n n S) : Matrix n n S := Matrix.of fun i j => A i j * B i j

theorem pair_had (A B C : Matrix n n S) : pair A (had B C) = pair (had B A) C := by
  rw [pair_eq_sum, pair_eq_sum]
  refine Finset.sum_congr rfl fun i _ => Finset.sum_congr rfl fun j _ => ?_
  simp only [had, of_apply]; ring

end AV.MatPB
