import AlgopyVerif.Model.Utpm
import AlgopyVerif.Proofs.NdArray
import AlgopyVerif.Proofs.Build
/-!
# Lifting series-level statements to UTPM arrays (any `P`, any shape)

A UTPM array is a family of series, one per `(p, idx)` (`seriesAt`).  `mapS1` (element-wise unary functions) and
`zipS2` (binary operators after UTPM-aware broadcasting) act on each `(p, idx)` series separately.  Consequences: the
L0 theorems (C01, C02, C12) hold for every direction and every element, and directions do not
interact (C11).  The forms with a plain-array operand (`mulConstArr`, `addConstArr`) are read element by element.
-/
namespace AV
open NdArray

section
variable {K : Type} {x : NdArray K} {D P : Nat} {t s : List Nat}

theorem utD_eq (hx : x.shape = D :: t) : utD x = D := by rw [utD, hx]; rfl
theorem utP_eq (hx : x.shape = D :: P :: s) : utP x = P := by rw [utP, hx]; rfl
theorem utShape_eq (hx : x.shape = D :: P :: s) : utShape x = s := by rw [utShape, hx]; rfl
theorem constAsUt_shape (c : NdArray K) : (constAsUt c).shape = 1 :: 1 :: c.shape := rfl
end

section
variable {K : Type} [Field K]
attribute [local instance] inh0

theorem seriesAt_eq {x : NdArray K} {D : Nat} {t : List Nat} (hx : x.shape = D :: t) (p : Nat) (idx : List Nat) :
    seriesAt x p idx = (List.range D).map fun d => x.get (d :: p :: idx) := by
  rw [seriesAt, utD_eq hx]

theorem co_seriesAt {x : NdArray K} {D : Nat} {t : List Nat} (hx : x.shape = D :: t) (p : Nat) (idx : List Nat)
    {d : Nat} (hd : d < D) : co (seriesAt x p idx) d = x.get (d :: p :: idx) := by
  rw [seriesAt_eq hx, co_map_range hd]

theorem co_seriesAt_ofFn (F : List Nat → K) {D P : Nat} {s : List Nat} {p : Nat} {idx : List Nat} {d : Nat}
    (hp : p < P) (h : ValidIdx s idx) (hd : d < D) :
    co (seriesAt (ofFn (D :: P :: s) F) p idx) d = F (d :: p :: idx) := by
  rw [co_seriesAt (t := P :: s) rfl p idx hd, get_ofFn (D :: P :: s) F (d :: p :: idx) ⟨hd, hp, h⟩]

theorem seriesAt_ofSeries (D P : Nat) (s : List Nat) (f : Nat → List Nat → List K) (p : Nat) (idx : List Nat)
    (hp : p < P) (h : ValidIdx s idx) :
    seriesAt (ofSeries D P s f) p idx = (List.range D).map fun d => co (f p idx) d := by
  -- `ofSeries` stores the series row-major over `P :: s`: reading one back is `get_ofFn` at that shape
  -- (`ravel (P :: s) (p :: idx)` and `unravel (P :: s) k` unfold to the terms below by definition)
  have hser : ((Array.range (P * numel s)).map fun k => f (k / numel s) (unravel s (k % numel s))).getD
      (p * numel s + ravel s idx) [] = f p idx := by
    have := get_ofFn (P :: s) (fun i => f (i.headD 0) i.tail) (p :: idx) ⟨hp, h⟩
    rwa [NdArray.get, ofFn, numel_cons] at this
  rw [seriesAt_eq (t := P :: s) rfl]
  refine map_range_congr fun d hd => ?_
  have hv : ValidIdx (D :: P :: s) (d :: p :: idx) := ⟨hd, hp, h⟩
  simp only [ofSeries, get_ofFn _ _ _ hv, hser]

theorem seriesAt_mapS1 (f : List K → List K → List K) (leaves : List (NdArray K)) (x : NdArray K)
    (D P : Nat) (s : List Nat) (hx : x.shape = D :: P :: s) (p : Nat) (idx : List Nat)
    (hp : p < P) (h : ValidIdx s idx) :
    seriesAt (mapS1 f leaves x) p idx
      = (List.range D).map fun d => co (f (leaves.map fun l => l.get (p :: idx)) (seriesAt x p idx)) d := by
  rw [mapS1, utD_eq hx, utP_eq hx, utShape_eq hx]
  exact seriesAt_ofSeries D P s _ p idx hp h

/-- direction `p` of a UTPM array as a single-direction UTPM array -/
def dirOf (p : Nat) (x : NdArray K) : NdArray K :=
  ofFn (utD x :: 1 :: utShape x) fun i =>
    match i with
    | d :: _ :: idx => x.get (d :: p :: idx)
    | _ => 0

/-- direction `p` of a leaf array of shape `P :: s` -/
def dirLeaf (p : Nat) (l : NdArray K) : NdArray K :=
  ofFn (1 :: l.shape.drop 1) fun i =>
    match i with
    | _ :: idx => l.get (p :: idx)
    | _ => 0

theorem dirOf_shape (p : Nat) {x : NdArray K} {D P : Nat} {s : List Nat} (hx : x.shape = D :: P :: s) :
    (dirOf p x).shape = D :: 1 :: s := by
  rw [dirOf, utD_eq hx, utShape_eq hx]
  rfl

theorem get_dirOf (p : Nat) {x : NdArray K} {D P : Nat} {s : List Nat} (hx : x.shape = D :: P :: s)
    {d : Nat} {idx : List Nat} (hd : d < D) (h : ValidIdx s idx) :
    (dirOf p x).get (d :: 0 :: idx) = x.get (d :: p :: idx) := by
  have hv : ValidIdx (D :: 1 :: s) (d :: 0 :: idx) := ⟨hd, Nat.one_pos, h⟩
  rw [dirOf, utD_eq hx, utShape_eq hx, get_ofFn _ _ _ hv]

theorem get_dirLeaf (p : Nat) {l : NdArray K} {P : Nat} {s : List Nat} (hl : l.shape = P :: s)
    {idx : List Nat} (h : ValidIdx s idx) : (dirLeaf p l).get (0 :: idx) = l.get (p :: idx) := by
  have hv : ValidIdx (1 :: s) (0 :: idx) := ⟨Nat.one_pos, h⟩
  simp only [dirLeaf, hl, List.drop_succ_cons, List.drop_zero, get_ofFn _ _ _ hv]

/-! ## binary operators: UTPM-aware broadcasting -/

/-- the `(D, P)` part of a result index passes through broadcasting unchanged wherever it is not collapsed to `0` anyway -/
theorem utBidx_eq {D P : Nat} (sx : List Nat) {d p : Nat} (idx : List Nat) (hd : D = 1 → d = 0) (hp : P = 1 → p = 0) :
    utBidx (D :: P :: sx) (d :: p :: idx) = d :: p :: bidx sx idx := by
  have h1 : (if D = 1 then 0 else d) = d := by split <;> simp [*]
  have h2 : (if P = 1 then 0 else p) = p := by split <;> simp [*]
  simp [utBidx, h1, h2]

/-- an operand whose own `D` and `P` are not `1` is read at the `(d, p)` of the result index:
operand direction `p` only feeds result direction `p` (no flow between directions) -/
theorem utBidx_same_DP (D P : Nat) (sx : List Nat) (d p : Nat) (idx : List Nat) (hD : D ≠ 1) (hP : P ≠ 1) :
    utBidx (D :: P :: sx) (d :: p :: idx) = d :: p :: bidx sx idx :=
  utBidx_eq sx idx (fun h => absurd h hD) (fun h => absurd h hP)

theorem utBidx_P1 (D : Nat) (sx : List Nat) (d : Nat) (idx : List Nat) (hD : D ≠ 1) :
    utBidx (D :: 1 :: sx) (d :: 0 :: idx) = d :: 0 :: bidx sx idx :=
  utBidx_eq sx idx (fun h => absurd h hD) (fun _ => rfl)

theorem get_utBroadcastTo_sameDP {x : NdArray K} {D P : Nat} {sx : List Nat} (hx : x.shape = D :: P :: sx) {s : List Nat}
    {d p : Nat} {idx : List Nat} (hv : ValidIdx (D :: P :: s) (d :: p :: idx)) :
    (utBroadcastTo x (D :: P :: s)).get (d :: p :: idx) = x.get (d :: p :: bidx sx idx) := by
  rw [utBroadcastTo, get_ofFn _ _ _ hv, hx, utBidx_eq sx idx (fun hD => Nat.lt_one_iff.mp (hD ▸ hv.1))
    (fun hP => Nat.lt_one_iff.mp (hP ▸ hv.2.1))]

theorem get_utBroadcastTo_const (c : NdArray K) {sh : List Nat} {d p : Nat} {idx : List Nat}
    (hv : ValidIdx sh (d :: p :: idx)) :
    (utBroadcastTo (constAsUt c) sh).get (d :: p :: idx) = c.get (bidx c.shape idx) := by
  rw [utBroadcastTo, get_ofFn _ _ _ hv]
  simp [constAsUt, utBidx, NdArray.get, ravel]

theorem utBroadcastShape_same (D P : Nat) {sx sy s : List Nat} (h : broadcastShapes sx sy = some s) :
    utBroadcastShape (D :: P :: sx) (D :: P :: sy) = some (D :: P :: s) := by
  unfold utBroadcastShape
  simp only [List.drop_succ_cons, List.drop_zero, h, List.take_succ_cons, List.take_zero]
  simp [broadcastShapes]

theorem utBroadcastShape_const (D P : Nat) {sx sc s : List Nat} (hs : broadcastShapes sx sc = some s) :
    utBroadcastShape (D :: P :: sx) (1 :: 1 :: sc) = some (D :: P :: s) := by
  have h (a : Nat) : (if a = 1 then some a else if a = 1 then some 1 else some a) = some a := by split <;> rfl
  have h11 : broadcastShapes [D, P] [1, 1] = some [D, P] := by simp [broadcastShapes, h]
  simp only [utBroadcastShape, List.drop_succ_cons, List.drop_zero, hs, List.take_succ_cons, List.take_zero, h11]
  rfl

/-- value law of the binary operators: after UTPM-aware broadcasting to the common shape
`D :: P :: s`, the result series at `(p, idx)` is the series-level operation applied to the two
broadcast operand series there. -/
theorem seriesAt_zipS2 (f : List K → List K → List K) (x y z : NdArray K) (D P : Nat) (s : List Nat)
    (hb : utBroadcastShape x.shape y.shape = some (D :: P :: s)) (hz : zipS2 f x y = some z)
    (p : Nat) (idx : List Nat) (hp : p < P) (h : ValidIdx s idx) :
    z.shape = D :: P :: s ∧
    seriesAt z p idx = (List.range D).map fun d =>
      co (f (seriesAt (utBroadcastTo x (D :: P :: s)) p idx) (seriesAt (utBroadcastTo y (D :: P :: s)) p idx)) d := by
  unfold zipS2 at hz
  rw [hb] at hz
  cases hz
  exact ⟨rfl, seriesAt_ofSeries D P s _ p idx hp h⟩

theorem seriesAt_utBroadcastTo {x : NdArray K} {D P : Nat} {sx : List Nat} (hx : x.shape = D :: P :: sx) {s : List Nat}
    {p : Nat} {idx : List Nat} (hp : p < P) (h : ValidIdx s idx) :
    seriesAt (utBroadcastTo x (D :: P :: s)) p idx = (List.range D).map fun d => x.get (d :: p :: bidx sx idx) := by
  rw [seriesAt_eq (t := P :: s) rfl]
  exact map_range_congr fun d hd => get_utBroadcastTo_sameDP hx ⟨hd, hp, h⟩

/-- no flow between directions in a binary operator: with `P` directions on both sides the
result series of direction `p` is computed from direction `p` of the operands only. -/
theorem seriesAt_zipS2_sameDP (f : List K → List K → List K) {x y z : NdArray K} {D P : Nat} {sx sy s : List Nat}
    (hx : x.shape = D :: P :: sx) (hy : y.shape = D :: P :: sy) (hs : broadcastShapes sx sy = some s)
    (hz : zipS2 f x y = some z) {p : Nat} {idx : List Nat} (hp : p < P) (h : ValidIdx s idx) :
    seriesAt z p idx = (List.range D).map fun d =>
      co (f ((List.range D).map fun d => x.get (d :: p :: bidx sx idx))
            ((List.range D).map fun d => y.get (d :: p :: bidx sy idx))) d := by
  have hb : utBroadcastShape x.shape y.shape = some (D :: P :: s) := by
    rw [hx, hy]; exact utBroadcastShape_same D P hs
  rw [(seriesAt_zipS2 f x y z D P s hb hz p idx hp h).2, seriesAt_utBroadcastTo hx hp h, seriesAt_utBroadcastTo hy hp h]

theorem zipS2_co (f : List K → List K → List K) {x y z : NdArray K} {D P : Nat} {sx sy s : List Nat}
    (hx : x.shape = D :: P :: sx) (hy : y.shape = D :: P :: sy) (hs : broadcastShapes sx sy = some s)
    (hz : zipS2 f x y = some z) {p : Nat} {idx : List Nat} (hp : p < P) (h : ValidIdx s idx) {d : Nat} (hd : d < D) :
    co (seriesAt z p idx) d = co (f ((List.range D).map fun d => x.get (d :: p :: bidx sx idx))
      ((List.range D).map fun d => y.get (d :: p :: bidx sy idx))) d := by
  rw [seriesAt_zipS2_sameDP f hx hy hs hz hp h, co_map_range hd]

theorem co_seriesAt_mulConstArr {dv : Bool} {x c z : NdArray K} {D P : Nat} {sx s : List Nat}
    (hx : x.shape = D :: P :: sx) (hs : broadcastShapes sx c.shape = some s)
    (hz : mulConstArr dv x c = some z) {p : Nat} {idx : List Nat} (hp : p < P) (h : ValidIdx s idx) {d : Nat} (hd : d < D) :
    co (seriesAt z p idx) d =
      if dv then x.get (d :: p :: bidx sx idx) / c.get (bidx c.shape idx)
      else x.get (d :: p :: bidx sx idx) * c.get (bidx c.shape idx) := by
  have hv : ValidIdx (D :: P :: s) (d :: p :: idx) := ⟨hd, hp, h⟩
  unfold mulConstArr at hz
  dsimp only at hz
  rw [hx, constAsUt_shape, utBroadcastShape_const D P hs] at hz
  cases hz
  rw [co_seriesAt_ofFn _ hp h hd, get_utBroadcastTo_const c hv, get_utBroadcastTo_sameDP hx hv]

theorem co_seriesAt_addConstArr {sb : Bool} {x c z : NdArray K} {D P : Nat} {sx s : List Nat}
    (hx : x.shape = D :: P :: sx) (hs : broadcastShapes sx c.shape = some s)
    (hz : addConstArr sb x c = some z) {p : Nat} {idx : List Nat} (hp : p < P) (h : ValidIdx s idx) {d : Nat} (hd : d < D) :
    co (seriesAt z p idx) d =
      if d = 0 then (if sb then x.get (d :: p :: bidx sx idx) - c.get (bidx c.shape idx)
        else x.get (d :: p :: bidx sx idx) + c.get (bidx c.shape idx))
      else x.get (d :: p :: bidx sx idx) := by
  have hv : ValidIdx (D :: P :: s) (d :: p :: idx) := ⟨hd, hp, h⟩
  unfold addConstArr at hz
  dsimp only at hz
  rw [hx, constAsUt_shape, utBroadcastShape_const D P hs] at hz
  cases hz
  rw [co_seriesAt_ofFn _ hp h hd]
  simp only [get_utBroadcastTo_const c hv, get_utBroadcastTo_sameDP hx hv]

end
end AV
