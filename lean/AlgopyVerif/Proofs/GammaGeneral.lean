import AlgopyVerif.Proofs.GammaUnivariate
import AlgopyVerif.Proofs.Interp
import AlgopyVerif.Proofs.Build
/-!
# The Γ identity of exact interpolation for every number of variables and every degree

`Σ_j γ(i,j) j^a = δ(i,a)` for all `N ≥ 1`, `d ≥ 1` (`gamma_sum`), on the list model of `exact_interpolation.py`.  The lattice
`{j : |j| = d}` interpolates every monomial of degree `d` on the hyperplane `|z| = d` (`lattice_interpolation`), which
collapses `γ` to the mixed forward difference `Σ_{k ≤ i} (−1)^{|i−k|} C(i,k) k^a / i! = δ(i,a)` (`mixed_diff`, `altU_eq`).
-/
open Finset
namespace AV.Interp

/-! ## the folds of the model are `List.sum` and `List.prod` -/

theorem miAbs_eq_sum (l : List ℕ) : miAbs l = l.sum := List.sum_eq_foldl.symm

theorem miAbs_cons (x : ℕ) (l : List ℕ) : miAbs (x :: l) = x + miAbs l := by simp [miAbs_eq_sum]

theorem miFact_eq_prod (l : List ℕ) : miFact l = (l.map Nat.factorial).prod := by
  rw [List.prod_eq_foldl, ← funext fact_eq]; rfl

theorem miFact_cons (x : ℕ) (l : List ℕ) : miFact (x :: l) = x.factorial * miFact l := by simp [miFact_eq_prod]

theorem miBinom_eq_prod (z : List ℚ) (j : List ℕ) : miBinom z j = (List.zipWith binomR z j).prod :=
  List.prod_eq_foldl.symm

theorem miBinom_cons (z : ℚ) (zs : List ℚ) (j : ℕ) (js : List ℕ) :
    miBinom (z :: zs) (j :: js) = binomR z j * miBinom zs js := by simp [miBinom_eq_prod]

theorem miBinom_nil : miBinom [] [] = 1 := rfl

theorem miPow_eq_prod (x a : List ℕ) : miPow x a = (List.zipWith (fun (xn an : ℕ) => (xn : ℚ) ^ an) x a).prod :=
  List.prod_eq_foldl.symm

theorem miPow_cons (x a : ℕ) (xs as : List ℕ) : miPow (x :: xs) (a :: as) = (x : ℚ) ^ a * miPow xs as := by
  simp [miPow_eq_prod]

theorem miPow_nil : miPow [] [] = 1 := rfl

theorem gamma_eq (i j : List ℕ) :
    gamma i j = (((box i).filter fun k => miAbs k ≠ 0).map fun k => alpha i j k (miAbs j)).sum / (miFact i : ℚ) := by
  rw [List.sum_eq_foldl]; rfl

theorem list_range_map_sum (f : ℕ → ℚ) (n : ℕ) : ((List.range n).map f).sum = ∑ k ∈ range n, f k := rfl

theorem sum_map_flatMap {α β M : Type*} [AddCommMonoid M] (l : List α) (f : α → List β) (F : β → M) :
    ((l.flatMap f).map F).sum = (l.map fun x => ((f x).map F).sum).sum := by
  rw [List.flatMap, List.map_flatten, List.sum_flatten, List.map_map, List.map_map]; rfl

theorem sum_multiIndices_one (d : ℕ) (F : List ℕ → ℚ) : ((multiIndices 1 d).map F).sum = F [d] := by
  simp [multiIndices]

theorem sum_multiIndices_succ (N d : ℕ) (F : List ℕ → ℚ) :
    ((multiIndices (N + 2) d).map F).sum
      = ∑ a ∈ range (d + 1), ((multiIndices (N + 1) (d - a)).map fun t => F (a :: t)).sum := by
  simp only [multiIndices]
  rw [sum_map_flatMap, List.map_reverse, List.sum_reverse, list_range_map_sum]
  refine Finset.sum_congr rfl fun a _ => ?_
  rw [List.map_map]
  rfl

theorem sum_box_nil (F : List ℕ → ℚ) : ((box []).map F).sum = F [] := by simp [box]

theorem sum_box_cons (a : ℕ) (as : List ℕ) (F : List ℕ → ℚ) :
    ((box (a :: as)).map F).sum = ∑ x ∈ range (a + 1), ((box as).map fun t => F (x :: t)).sum := by
  simp only [box]
  rw [sum_map_flatMap, list_range_map_sum]
  refine Finset.sum_congr rfl fun x _ => ?_
  rw [List.map_map]
  rfl

theorem mem_box_le : ∀ {a m : List ℕ}, m ∈ box a → m.sum ≤ a.sum ∧ m.length = a.length
  | [], m, h => by simp [box] at h; subst h; simp
  | a :: as, m, h => by
    simp only [box, List.mem_flatMap, List.mem_range, List.mem_map] at h
    obtain ⟨x, hx, t, ht, rfl⟩ := h
    have := mem_box_le ht
    simp only [List.sum_cons, List.length_cons]
    omega

theorem list_sum_comm {α β M : Type*} [AddCommMonoid M] (l1 : List α) (l2 : List β) (F : α → β → M) :
    (l1.map fun j => (l2.map fun m => F j m).sum).sum = (l2.map fun m => (l1.map fun j => F j m).sum).sum := by
  induction l1 with
  | nil => simp
  | cons x l ih =>
    simp only [List.map_cons, List.sum_cons, ih]
    rw [← List.sum_map_add]

theorem sum_map_filter_of_zero {α M : Type*} [AddCommMonoid M] (l : List α) (p : α → Bool) (f : α → M)
    (h : ∀ x ∈ l, p x = false → f x = 0) :
    ((l.filter p).map f).sum = (l.map f).sum := by
  induction l with
  | nil => rfl
  | cons x l ih =>
    have ih := ih fun y hy => h y (List.mem_cons_of_mem x hy)
    cases hp : p x
    · rw [List.filter_cons_of_neg (by simp [hp]), List.map_cons, List.sum_cons, h x List.mem_cons_self hp, zero_add, ih]
    · rw [List.filter_cons_of_pos hp, List.map_cons, List.sum_cons, List.map_cons, List.sum_cons, ih]

/-! ## products over a rational point; a natural point is the rational point of its casts -/

def miFf (x : List ℚ) (m : List ℕ) : ℚ := (List.zipWith ffall x m).prod
def miSt (a m : List ℕ) : ℚ := (List.zipWith (fun (an mn : ℕ) => (Nat.stirlingSecond an mn : ℚ)) a m).prod
def miPowQ (z : List ℚ) (a : List ℕ) : ℚ := (List.zipWith (fun (zn : ℚ) (an : ℕ) => zn ^ an) z a).prod

theorem miFf_cons (x : ℚ) (xs : List ℚ) (m : ℕ) (ms : List ℕ) : miFf (x :: xs) (m :: ms) = ffall x m * miFf xs ms := by
  simp [miFf]
theorem miSt_cons (a : ℕ) (as : List ℕ) (m : ℕ) (ms : List ℕ) :
    miSt (a :: as) (m :: ms) = (Nat.stirlingSecond a m : ℚ) * miSt as ms := by simp [miSt]
theorem miPowQ_cons (z : ℚ) (zs : List ℚ) (a : ℕ) (as : List ℕ) : miPowQ (z :: zs) (a :: as) = z ^ a * miPowQ zs as := by
  simp [miPowQ]

theorem miPow_eq_miPowQ (j a : List ℕ) : miPow j a = miPowQ (j.map fun (n : ℕ) => (n : ℚ)) a := by
  rw [miPow_eq_prod, miPowQ, List.zipWith_map_left]

theorem miPowQ_scale : ∀ (z : List ℚ) (a : List ℕ) (c : ℚ), z.length = a.length →
    miPowQ (z.map (c * ·)) a = c ^ a.sum * miPowQ z a
  | [], [], c, _ => by simp [miPowQ]
  | z :: zs, a :: as, c, h => by
    simp only [List.map_cons, miPowQ_cons, List.sum_cons, miPowQ_scale zs as c (by simpa using h)]
    rw [mul_pow, pow_add]; ring
  | [], _ :: _, _, h => nomatch h
  | _ :: _, [], _, h => nomatch h

/-- `Π_n z_n^{a_n} = Σ_{m ≤ a} (Π_n S(a_n, m_n)) · Π_n (z_n)_{m_n}` (Stirling numbers of the second kind, falling factorials) -/
theorem miPowQ_expand : ∀ (z : List ℚ) (a : List ℕ), z.length = a.length →
    miPowQ z a = ((box a).map fun m => miSt a m * miFf z m).sum
  | [], [], _ => by rw [sum_box_nil]; simp [miPowQ, miSt, miFf]
  | z :: zs, a :: as, h => by
    have hl : zs.length = as.length := by simpa using h
    rw [miPowQ_cons, sum_box_cons, miPowQ_expand zs as hl, pow_eq_sum_stirling, Finset.sum_mul]
    refine Finset.sum_congr rfl fun x _ => ?_
    rw [← List.sum_map_mul_left]
    refine congrArg List.sum (List.map_congr_left fun t _ => ?_)
    rw [miSt_cons, miFf_cons]; ring
  | [], _ :: _, h => nomatch h
  | _ :: _, [], h => nomatch h

/-- `Σ_{|j| = d} Π_n C(z_n, j_n) (j_n)_{m_n} = (Π_n (z_n)_{m_n}) · C(|z| - |m|, d - |m|)` if `|m| ≤ d`, else `0` -/
theorem weighted_vandermonde : ∀ {N : ℕ} {z : List ℚ} {m : List ℕ} (d : ℕ), z.length = N + 1 → m.length = N + 1 →
    ((multiIndices (N + 1) d).map fun j => miBinom z j * miFf (j.map fun (n : ℕ) => (n : ℚ)) m).sum
      = if m.sum ≤ d then miFf z m * binomR (z.sum - (m.sum : ℚ)) (d - m.sum) else 0
  | 0, z, m, d, hz, hm => by
    match z, m, hz, hm with
    | [z0], [m0], _, _ =>
      rw [sum_multiIndices_one]
      simp only [List.map_cons, List.map_nil, miBinom_cons, miBinom_nil, miFf, List.zipWith_cons_cons,
        List.zipWith_nil_right, List.prod_cons, List.prod_nil, mul_one, List.sum_cons, List.sum_nil, add_zero]
      by_cases h : m0 ≤ d
      · rw [if_pos h, binomR_mul_ffall z0 d m0 h]
      · rw [if_neg h, ffall_natCast_of_lt d m0 (by omega)]; ring
  | N + 1, z, m, d, hz, hm => by
    match z, m, hz, hm with
    | z0 :: zs, m0 :: ms, hz, hm =>
      have hzs : zs.length = N + 1 := by simpa using hz
      have hms : ms.length = N + 1 := by simpa using hm
      rw [sum_multiIndices_succ]
      have hterm : ∀ a ∈ range (d + 1),
          ((multiIndices (N + 1) (d - a)).map fun t =>
              miBinom (z0 :: zs) (a :: t) * miFf ((a :: t).map fun (n : ℕ) => (n : ℚ)) (m0 :: ms)).sum
            = (binomR z0 a * ffall (a : ℚ) m0) *
                (if ms.sum ≤ d - a then miFf zs ms * binomR (zs.sum - (ms.sum : ℚ)) (d - a - ms.sum) else 0) := by
        intro a _
        rw [← weighted_vandermonde (d - a) hzs hms, ← List.sum_map_mul_left]
        refine congrArg List.sum (List.map_congr_left fun t _ => ?_)
        rw [miBinom_cons, List.map_cons, miFf_cons]; ring
      rw [Finset.sum_congr rfl hterm]
      simp only [List.sum_cons, miFf_cons]
      by_cases hM : m0 + ms.sum ≤ d
      · rw [if_pos hM]
        -- only m0 ≤ a ≤ d - |ms| contribute
        have hzero : ∀ a ∈ range (d + 1), a ∉ Finset.Ico m0 (d - ms.sum + 1) →
            (binomR z0 a * ffall (a : ℚ) m0) *
              (if ms.sum ≤ d - a then miFf zs ms * binomR (zs.sum - (ms.sum : ℚ)) (d - a - ms.sum) else 0) = 0 := by
          intro a ha hna
          have ha' := Finset.mem_range.mp ha
          simp only [Finset.mem_Ico, not_and_or, not_le, not_lt] at hna
          rcases hna with h | h
          · rw [ffall_natCast_of_lt a m0 h]; ring
          · rw [if_neg (by omega)]; ring
        have hsub : Finset.Ico m0 (d - ms.sum + 1) ⊆ range (d + 1) := fun a ha =>
          Finset.mem_range.mpr ((Finset.mem_Ico.mp ha).2.trans_le (Nat.succ_le_succ (Nat.sub_le _ _)))
        rw [← Finset.sum_subset hsub hzero, Finset.sum_Ico_eq_sum_range]
        have hxy : z0 + zs.sum - ((m0 + ms.sum : ℕ) : ℚ) = (z0 - (m0 : ℚ)) + (zs.sum - (ms.sum : ℚ)) := by push_cast; ring
        have hlen : d - ms.sum + 1 - m0 = d - (m0 + ms.sum) + 1 := by
          rw [Nat.sub_add_comm (Nat.le_sub_of_add_le hM), Nat.sub_sub, Nat.add_comm ms.sum]
        rw [hlen, hxy, binomR_add (z0 - (m0 : ℚ)) (zs.sum - (ms.sum : ℚ)) (d - (m0 + ms.sum)), Finset.mul_sum]
        refine Finset.sum_congr rfl fun i hi => ?_
        have hi' : i < d - (m0 + ms.sum) + 1 := Finset.mem_range.mp hi
        rw [if_pos (by omega), binomR_mul_ffall z0 (m0 + i) m0 (Nat.le_add_right _ _), Nat.add_sub_cancel_left]
        have he : d - (m0 + i) - ms.sum = d - (m0 + ms.sum) - i := by rw [Nat.sub_sub, Nat.sub_sub, Nat.add_right_comm]
        rw [he]; ring
      · rw [if_neg hM]
        refine Finset.sum_eq_zero fun a ha => ?_
        have ha' := Finset.mem_range.mp ha
        by_cases h : a < m0
        · rw [ffall_natCast_of_lt a m0 h]; ring
        · rw [if_neg (by omega)]; ring

theorem lattice_interpolation {N : ℕ} {z : List ℚ} {al : List ℕ} (d : ℕ) (hz : z.length = N + 1) (hal : al.length = N + 1)
    (hzs : z.sum = (d : ℚ)) (hals : al.sum ≤ d) :
    ((multiIndices (N + 1) d).map fun j => miBinom z j * miPow j al).sum = miPowQ z al := by
  -- expand `j^al` in falling factorials of `j` and sum over `j` first
  have h1 : ∀ j ∈ multiIndices (N + 1) d, miBinom z j * miPow j al
      = ((box al).map fun m => miSt al m * (miBinom z j * miFf (j.map fun (n : ℕ) => (n : ℚ)) m)).sum := by
    intro j hj
    rw [miPow_eq_miPowQ, miPowQ_expand _ al (by rw [List.length_map, ((mem_multiIndices_succ N d j).mp hj).1, hal]),
      ← List.sum_map_mul_left]
    exact congrArg List.sum (List.map_congr_left fun m _ => mul_left_comm _ _ _)
  rw [List.map_congr_left h1, list_sum_comm, miPowQ_expand z al (by rw [hz, hal])]
  refine congrArg List.sum (List.map_congr_left fun m hm => ?_)
  obtain ⟨hms, hml⟩ := mem_box_le hm
  have hsum : m.sum ≤ d := hms.trans hals
  -- `|z| = d` leaves `C(d − |m|, d − |m|) = 1` of the Vandermonde sum
  rw [List.sum_map_mul_left, weighted_vandermonde d hz (hml.trans hal), if_pos hsum, hzs, ← Nat.cast_sub hsum,
    binomR_natCast, Nat.choose_self, Nat.cast_one, mul_one]

/-- `Σ_{k ≤ i} (-1)^{|i-k|} C(i,k) k^a = Π_n Δ^{i_n}[x^{a_n}](0)` -/
theorem mixed_diff : ∀ (i a : List ℕ), i.length = a.length →
    ((box i).map fun k => (-1 : ℚ) ^ (i.sum - k.sum) * miBinom (i.map fun (n : ℕ) => (n : ℚ)) k * miPow k a).sum
      = (List.zipWith altU1 i a).prod
  | [], [], _ => by simp [sum_box_nil, miBinom_nil, miPow_nil]
  | i :: is, a :: as, h => by
    rw [sum_box_cons, List.zipWith_cons_cons, List.prod_cons, ← mixed_diff is as (by simpa using h), altU1, Finset.sum_mul]
    refine Finset.sum_congr rfl fun x hx => ?_
    rw [← List.sum_map_mul_left]
    refine congrArg List.sum (List.map_congr_left fun t ht => ?_)
    have hx := Finset.mem_range.mp hx
    have ht := (mem_box_le ht).1
    rw [List.sum_cons, List.sum_cons, ← tsub_add_tsub_comm (Nat.lt_succ_iff.mp hx) ht, pow_add,
      List.map_cons, miBinom_cons, miPow_cons, binomR_natCast]
    ring
  | [], _ :: _, h => nomatch h
  | _ :: _, [], h => nomatch h

/-- `Π_n Δ^{i_n}[x^{a_n}](0) = i! · δ(i,a)` for `|a| ≤ |i|`: then `a ≠ i` forces some `a_n < i_n`, where the `i_n`-th
difference of `x^{a_n}` vanishes -/
theorem altU_eq : ∀ (i a : List ℕ), i.length = a.length → a.sum ≤ i.sum →
    (List.zipWith altU1 i a).prod = if i = a then (miFact i : ℚ) else 0
  | [], [], _, _ => by simp [miFact]
  | i :: is, a :: as, h, hs => by
    rw [List.sum_cons, List.sum_cons] at hs
    simp only [List.zipWith_cons_cons, List.prod_cons, List.cons.injEq]
    rcases lt_trichotomy a i with hlt | rfl | hgt
    · rw [altU1_lt i a hlt, zero_mul, if_neg (by omega)]
    · rw [altU1_self, altU_eq is as (by simpa using h) (by omega), miFact_cons]
      simp only [true_and, mul_ite, mul_zero, Nat.cast_mul]
    · rw [altU_eq is as (by simpa using h) (by omega), if_neg (by rintro rfl; omega), mul_zero, if_neg (by omega)]
  | [], _ :: _, h, _ => nomatch h
  | _ :: _, [], h, _ => nomatch h

theorem miPow_eq_zero : ∀ (k a : List ℕ), k.length = a.length → k.sum = 0 → 0 < a.sum → miPow k a = 0
  | [], [], _, _, h => nomatch h
  | k :: ks, a :: as, hl, hk, ha => by
    simp only [List.sum_cons] at hk ha
    obtain rfl : k = 0 := by omega
    rw [miPow_cons]
    rcases Nat.eq_zero_or_pos a with rfl | h
    · rw [miPow_eq_zero ks as (by simpa using hl) (by omega) (by omega), mul_zero]
    · rw [Nat.cast_zero, zero_pow h.ne', zero_mul]
  | [], _ :: _, h, _, _ => nomatch h
  | _ :: _, [], h, _, _ => nomatch h

/-- one term of `γ`, summed against the monomial `j^a` over the lattice: the lattice interpolation at the scaled point
`z = d·k/|k|` leaves `(d/|k|)^d k^a`, which cancels the factor `(|k|/d)^d` of `alpha` -/
theorem alpha_sum {N d : ℕ} (hd : 0 < d) {i k a : List ℕ} (his : i.sum = d) (hkl : k.length = N + 1)
    (hal : a.length = N + 1) (has : a.sum = d) (hk0 : k.sum ≠ 0) :
    ((multiIndices (N + 1) d).map fun j => alpha i j k d * miPow j a).sum
      = (-1 : ℚ) ^ (i.sum - k.sum) * miBinom (i.map fun (n : ℕ) => (n : ℚ)) k * miPow k a := by
  have hkq : ((k.sum : ℕ) : ℚ) ≠ 0 := by exact_mod_cast hk0
  have hdq : (d : ℚ) ≠ 0 := by exact_mod_cast hd.ne'
  have hz : (k.map fun (kn : ℕ) => ((d : ℚ) * (kn : ℚ)) / ((miAbs k : ℕ) : ℚ))
      = (k.map fun (n : ℕ) => (n : ℚ)).map ((d : ℚ) / (k.sum : ℚ) * ·) := by
    rw [List.map_map, miAbs_eq_sum]
    exact List.map_congr_left fun kn _ => mul_div_right_comm _ _ _
  have hterm : ∀ j ∈ multiIndices (N + 1) d, alpha i j k d * miPow j a
      = ((-1 : ℚ) ^ (i.sum - k.sum) * miBinom (i.map fun (n : ℕ) => (n : ℚ)) k * ((k.sum : ℚ) / (d : ℚ)) ^ d)
        * (miBinom ((k.map fun (n : ℕ) => (n : ℚ)).map ((d : ℚ) / (k.sum : ℚ) * ·)) j * miPow j a) := by
    intro j _
    simp only [alpha]
    rw [sgn_eq, hz, miAbs_eq_sum, miAbs_eq_sum, his]
    ring
  rw [List.map_congr_left hterm, List.sum_map_mul_left,
    lattice_interpolation d (by rw [List.length_map, List.length_map, hkl]) hal
      (by rw [List.sum_map_mul_left, List.map_id', ← Nat.cast_list_sum, div_mul_cancel₀ _ hkq]) has.le,
    miPowQ_scale _ a _ (by rw [List.length_map, hkl, hal]), has, ← miPow_eq_miPowQ, mul_assoc, ← mul_assoc (_ ^ d),
    ← mul_pow, div_mul_div_comm, mul_comm (k.sum : ℚ), div_self (mul_ne_zero hdq hkq), one_pow, one_mul]

/-- `Σ_{|j| = d} γ(i,j) · j^a = δ(i,a)` for multi-indices `i`, `a` of degree `d ≥ 1` in `N+1` variables -/
theorem gamma_sum (N d : ℕ) (hd : 0 < d) (i a : List ℕ) (hi : i ∈ multiIndices (N + 1) d) (ha : a ∈ multiIndices (N + 1) d) :
    ((multiIndices (N + 1) d).map fun j => gamma i j * miPow j a).sum = if i = a then 1 else 0 := by
  obtain ⟨hil, his⟩ := (mem_multiIndices_succ N d i).mp hi
  obtain ⟨hal, has⟩ := (mem_multiIndices_succ N d a).mp ha
  have hfact : (miFact i : ℚ) ≠ 0 := by
    rw [miFact_eq_prod]
    exact Nat.cast_ne_zero.mpr (List.prod_ne_zero fun h =>
      let ⟨n, _, hn⟩ := List.mem_map.mp h; Nat.factorial_ne_zero n hn)
  -- `γ(i,j) j^a` with `|j| = d`, the division by `i!` pulled out of the sum over `k`
  have h1 : ∀ j ∈ multiIndices (N + 1) d, gamma i j * miPow j a
      = (((box i).filter fun k => miAbs k ≠ 0).map fun k => alpha i j k d * miPow j a).sum * (miFact i : ℚ)⁻¹ := by
    intro j hj
    rw [gamma_eq, miAbs_eq_sum j, ((mem_multiIndices_succ N d j).mp hj).2, List.sum_map_mul_right, div_eq_mul_inv]
    ring
  -- summed over `j` first, the lattice interpolation collapses every `k`
  have h2 : ∀ k ∈ (box i).filter fun k => miAbs k ≠ 0,
      ((multiIndices (N + 1) d).map fun j => alpha i j k d * miPow j a).sum
        = (-1 : ℚ) ^ (i.sum - k.sum) * miBinom (i.map fun (n : ℕ) => (n : ℚ)) k * miPow k a := by
    intro k hk
    rw [List.mem_filter] at hk
    exact alpha_sum hd his ((mem_box_le hk.1).2.trans hil) hal has (by simpa [miAbs_eq_sum] using hk.2)
  rw [List.map_congr_left h1, List.sum_map_mul_right, list_sum_comm, List.map_congr_left h2,
    -- `k = 0` contributes nothing since `0^a = 0`
    sum_map_filter_of_zero _ _ _ fun k hk hk0 => by
      rw [miPow_eq_zero k a (by rw [(mem_box_le hk).2, hil, hal]) (by simpa [miAbs_eq_sum] using hk0) (by omega), mul_zero],
    mixed_diff i a (by rw [hil, hal]), altU_eq i a (by rw [hil, hal]) (by omega)]
  split
  · exact mul_inv_cancel₀ hfact
  · exact zero_mul _

end AV.Interp
