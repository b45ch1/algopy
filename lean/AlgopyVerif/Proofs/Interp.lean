import AlgopyVerif.Model.Interp
import Mathlib.Data.List.Nodup
/-!
# The multi-index list enumerates every monomial of degree `d` exactly once
-/
namespace AV.Interp

theorem mem_multiIndices_succ : ∀ (N d : Nat) (i : List Nat),
    i ∈ multiIndices (N+1) d ↔ i.length = N+1 ∧ i.sum = d
  | 0, d, i => by
    simp only [multiIndices, List.mem_singleton]
    constructor
    · rintro rfl; simp
    · rintro ⟨hl, hs⟩
      match i, hl with
      | [a], _ => simp at hs; simp [hs]
  | N+1, d, i => by
    simp only [multiIndices, List.mem_flatMap, List.mem_reverse, List.mem_range, List.mem_map]
    constructor
    · rintro ⟨a, ha, t, ht, rfl⟩
      have := (mem_multiIndices_succ N (d - a) t).mp ht
      refine ⟨by simp [this.1], ?_⟩
      simp [this.2]; omega
    · rintro ⟨hl, hs⟩
      match i, hl with
      | a :: t, hl =>
        simp only [List.sum_cons] at hs
        refine ⟨a, by omega, t, ?_, rfl⟩
        apply (mem_multiIndices_succ N (d - a) t).mpr
        simp only [List.length_cons, Nat.add_right_cancel_iff] at hl
        exact ⟨hl, Nat.eq_sub_of_add_eq' hs⟩

theorem nodup_multiIndices : ∀ (N d : Nat), (multiIndices N d).Nodup
  | 0, _ => by simp [multiIndices]
  | 1, _ => by simp [multiIndices]
  | N+2, d => by
    simp only [multiIndices]
    rw [List.nodup_flatMap]
    constructor
    · intro a _
      exact (nodup_multiIndices (N+1) (d - a)).map (fun _ _ h => by simpa using h)
    · apply List.Nodup.pairwise_of_forall_ne
      · exact List.nodup_reverse.mpr List.nodup_range
      · intro a _ b _ hab
        simp only [Function.onFun, List.disjoint_left, List.mem_map]
        rintro x ⟨t, _, rfl⟩ ⟨t', _, h⟩
        simp only [List.cons.injEq] at h
        exact hab h.1.symm

end AV.Interp
