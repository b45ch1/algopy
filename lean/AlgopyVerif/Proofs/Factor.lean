import Mathlib.LinearAlgebra.Matrix.NonsingularInverse
/-!
# Order-by-order factorization kernels: the step equations and what the order-`d` identities rest on

`…Step` structures state what one pass of the `for D in range(1, DT)` loop of `_qr_rectangular` (square and tall case),
`_cholesky` and `UTPM.lu` computes at order `d`.  The order-`d` coefficient of a defining identity is a sum
`Σ_{k ≤ d} X_k Y_{d-k}`; a step only ever sees its two ends `X_0 Y_d + X_d Y_0` and the sum over `0 < k < d`.
In the triangular masks `lt j i` reads "`(i, j)` lies strictly below the diagonal".  `lt` is meant to be `<` on `Fin n` and is kept
abstract so that reversing it dualises everything: with `gt a b := lt b a`, `IsLower lt` is `IsUpper gt` and `QRStep gt` is the QL step.
-/
open Matrix Finset
namespace AV.Factor

section sums
variable {M : Type*} [AddCommMonoid M]

theorem cauchy_ends (f : ℕ → ℕ → M) {d : ℕ} (hd : 1 ≤ d) :
    ∑ k ∈ range (d + 1), f k (d - k) = f 0 d + f d 0 + ∑ k ∈ Ico 1 d, f k (d - k) := by
  rw [sum_range_succ, range_eq_Ico, sum_eq_sum_Ico_succ_bot (by omega), add_right_comm, Nat.sub_zero, Nat.sub_self]

theorem sum_Ico_flip (f : ℕ → ℕ → M) (d : ℕ) :
    ∑ k ∈ Ico 1 d, f k (d - k) = ∑ k ∈ Ico 1 d, f (d - k) k := by
  have := sum_Ico_reflect (fun k => f k (d - k)) 1 (Nat.le_succ d)
  rw [Nat.add_sub_cancel, Nat.add_sub_cancel_left] at this
  rw [← this]
  exact sum_congr rfl fun k hk => by rw [Nat.sub_sub_self (mem_Ico.mp hk).2.le]

theorem sum_Ico_congr_lt {α β : Type*} (g : α → β → M) {x x' : ℕ → α} {y y' : ℕ → β} {d : ℕ}
    (hx : ∀ k, k < d → x k = x' k) (hy : ∀ k, k < d → y k = y' k) :
    ∑ k ∈ Ico 1 d, g (x k) (y (d - k)) = ∑ k ∈ Ico 1 d, g (x' k) (y' (d - k)) :=
  sum_congr rfl fun k hk => by
    have := mem_Ico.mp hk
    rw [hx k (by omega), hy (d - k) (by omega)]
end sums

theorem cauchy_of_ends {M : Type*} [AddCommGroup M] (f : ℕ → ℕ → M) {d : ℕ} (hd : 1 ≤ d) {a : M}
    (h : f 0 d + f d 0 = a - ∑ k ∈ Ico 1 d, f k (d - k)) : ∑ k ∈ range (d + 1), f k (d - k) = a := by
  rw [cauchy_ends f hd, h, sub_add_cancel]

theorem forall_le_of_step {P : ℕ → Prop} {m : ℕ} (h0 : P 0)
    (step : ∀ d, 1 ≤ d → d ≤ m → (∀ k, k < d → P k) → P d) (d : ℕ) : d ≤ m → P d :=
  Nat.strong_induction_on d fun d ih hd => (Nat.eq_zero_or_pos d).elim (· ▸ h0) fun hpos =>
    step d hpos hd fun k hk => ih k hk (hk.le.trans hd)

section orth
variable {m n : Type} [Fintype m] {K : Type} [Field K]

theorem transpose_sum_Ico_symm (f : ℕ → ℕ → Matrix n n K) (hf : ∀ i j, (f i j)ᵀ = f j i) (d : ℕ) :
    (∑ k ∈ Ico 1 d, f k (d - k))ᵀ = ∑ k ∈ Ico 1 d, f k (d - k) := by
  rw [transpose_sum, sum_Ico_flip f]
  exact sum_congr rfl fun k _ => hf _ _

theorem transpose_sum_Ico_gram (Q : ℕ → Matrix m n K) (d : ℕ) :
    (∑ k ∈ Ico 1 d, (Q k)ᵀ * Q (d - k))ᵀ = ∑ k ∈ Ico 1 d, (Q k)ᵀ * Q (d - k) :=
  transpose_sum_Ico_symm (fun i j => (Q i)ᵀ * Q j) (fun i j => by rw [transpose_mul, transpose_transpose]) d

/-- Orthogonality at order `d` only asks for the symmetric part of `Q₀ᵀ Q_d`: with `G` the sum over `0 < k < d` it must be `-G/2`.
The antisymmetric part `X` is free (QR fixes it by the triangularity of `R`, `_eigh1` by the off-diagonal blocks). -/
theorem orth_of_proj [CharZero K] (Q : ℕ → Matrix m n K) {d : ℕ} (hd : 1 ≤ d) {S X : Matrix n n K}
    (hS : S = (2 : K)⁻¹ • -(∑ k ∈ Ico 1 d, (Q k)ᵀ * Q (d - k))) (hX : Xᵀ = -X) (hp : (Q 0)ᵀ * Q d = S + X) :
    ∑ k ∈ range (d + 1), (Q k)ᵀ * Q (d - k) = 0 := by
  have hST : Sᵀ = S := by rw [hS, transpose_smul, transpose_neg, transpose_sum_Ico_gram]
  have hpT : (Q d)ᵀ * Q 0 = S - X := by
    rw [← transpose_transpose (Q 0), ← transpose_mul, hp, transpose_add, hST, hX, sub_eq_add_neg]
  have hG : ∑ k ∈ Ico 1 d, (Q k)ᵀ * Q (d - k) = -(S + S) := by
    rw [← two_smul K S, hS, smul_smul, mul_inv_cancel₀ two_ne_zero, one_smul, neg_neg]
  rw [cauchy_ends (fun i j => (Q i)ᵀ * Q j) hd, hp, hpT, hG]
  abel
end orth

section masks
-- `hneg : lt j i → lt k i ∨ lt j k` below says that `lt` is negatively transitive: what a product of triangular matrices needs
variable {n : Type} {K : Type} [Field K]

/-- `tril(·, -1)`: the Hadamard product with the mask `build_PL` of algorithms.py -/
def PL (lt : n → n → Prop) [DecidableRel lt] (M : Matrix n n K) : Matrix n n K :=
  Matrix.of fun i j => if lt j i then M i j else 0

/-- `triu(·)`, diagonal included (the mask `build_PU` of algorithms.py is strict: this is not it) -/
def PU (lt : n → n → Prop) [DecidableRel lt] (M : Matrix n n K) : Matrix n n K :=
  Matrix.of fun i j => if lt j i then 0 else M i j

def IsUpper (lt : n → n → Prop) (M : Matrix n n K) : Prop := ∀ i j, lt j i → M i j = 0
def IsLower (lt : n → n → Prop) (M : Matrix n n K) : Prop := ∀ i j, lt i j → M i j = 0

theorem sub_transpose_antisymm (P : Matrix n n K) : (P - Pᵀ)ᵀ = -(P - Pᵀ) := by
  rw [transpose_sub, transpose_transpose, neg_sub]

variable (lt : n → n → Prop)

section
variable [DecidableRel lt]

theorem PL_strict (M : Matrix n n K) (i j : n) (h : ¬ lt j i) : PL lt M i j = 0 := by simp [PL, h]

theorem PU_upper (M : Matrix n n K) (i j : n) (h : lt j i) : PU lt M i j = 0 := by simp [PU, h]

theorem PL_add_PU (M : Matrix n n K) : PL lt M + PU lt M = M := by
  ext i j
  simp only [PL, PU, Matrix.add_apply, Matrix.of_apply]
  split <;> simp

theorem PL_isLower (hasym : ∀ i j, lt i j → ¬ lt j i) (M : Matrix n n K) : IsLower lt (PL lt M) :=
  fun i j h => PL_strict lt M i j (hasym i j h)

theorem isUpper_sub_PL (hasym : ∀ i j, lt i j → ¬ lt j i) (V : Matrix n n K) :
    IsUpper lt (V - (PL lt V - (PL lt V)ᵀ)) := by
  intro i j hij
  rw [Matrix.sub_apply, Matrix.sub_apply, transpose_apply, PL_strict lt V j i (hasym j i hij), PL, of_apply, if_pos hij,
    sub_zero, sub_self]
end

variable [Fintype n]

theorem upper_mul_upper (hneg : ∀ i k j, lt j i → lt k i ∨ lt j k) (U V : Matrix n n K)
    (hU : IsUpper lt U) (hV : IsUpper lt V) : IsUpper lt (U * V) := by
  intro i j hij
  rw [Matrix.mul_apply]
  apply sum_eq_zero
  intro k _
  rcases hneg i k j hij with h | h
  · rw [hU i k h, zero_mul]
  · rw [hV k j h, mul_zero]

/-- lower triangular for `lt` is upper triangular for the reversed relation -/
theorem lower_mul_lower (hneg : ∀ i k j, lt j i → lt k i ∨ lt j k) (L M : Matrix n n K)
    (hL : IsLower lt L) (hM : IsLower lt M) : IsLower lt (L * M) :=
  upper_mul_upper (fun a b => lt b a) (fun i k j h => (hneg j k i h).symm) L M hL hM

theorem lower_mul_PL_diag [DecidableRel lt] (L M : Matrix n n K) (hL : IsLower lt L) (i : n) : (L * PL lt M) i i = 0 := by
  rw [Matrix.mul_apply]
  apply sum_eq_zero
  intro k _
  by_cases h : lt i k
  · rw [hL i k h, zero_mul]
  · rw [PL_strict lt M k i h, mul_zero]

variable {lt}

/-- The `R`-update shared by the square and the tall QR step: `R_d = (W - S - X) R₀` with `W = Q₀ᵀ H R₀⁻¹` (here `M = Q₀ᵀ H`), and
`X = PL(W - S) - PL(W - S)ᵀ` cancels the part of `W - S` below the diagonal. -/
theorem upper_of_qr_update [DecidableEq n] [DecidableRel lt] (hneg : ∀ i k j, lt j i → lt k i ∨ lt j k)
    (hasym : ∀ i j, lt i j → ¬ lt j i) {M S X R0 Rd Rinv : Matrix n n K} (hX : X = PL lt (M * Rinv - S) - (PL lt (M * Rinv - S))ᵀ)
    (hR : Rd = M - (S + X) * R0) (hinv : Rinv * R0 = 1) (hR0 : IsUpper lt R0) : IsUpper lt Rd := by
  have hfac : Rd = (M * Rinv - S - X) * R0 := by
    rw [hR, sub_sub, Matrix.sub_mul, Matrix.mul_assoc, hinv, Matrix.mul_one]
  rw [hfac, hX]
  exact upper_mul_upper lt hneg _ _ (isUpper_sub_PL lt hasym _) hR0
end masks

section
variable {n : Type} [DecidableEq n] {K : Type} [Field K]

/-- the projection `Proj ∘ G`: strictly lower part plus half the diagonal -/
def Phi (lt : n → n → Prop) [DecidableRel lt] (G : Matrix n n K) : Matrix n n K :=
  Matrix.of fun i j => if lt j i then G i j else if i = j then (2 : K)⁻¹ * G i j else 0

variable (lt : n → n → Prop) [DecidableRel lt]

theorem Phi_isLower (hasym : ∀ i j, lt i j → ¬ lt j i) (hirr : ∀ i, ¬ lt i i) (G : Matrix n n K) :
    IsLower lt (Phi lt G) := by
  intro i j h
  have hne : i ≠ j := fun e => hirr i (e ▸ h)
  simp [Phi, hasym i j h, hne]
end

/-- The step shared by LU and Cholesky: `F = X₀⁻¹ (B - Σ_{0<k<d} X_{d-k} Y_k) Y₀⁻¹` is split as `P₁ + P₂`, and `X_d = X₀ P₁`,
`Y_d = P₂ Y₀` (LU: the parts strictly below and on or above the diagonal; Cholesky: `Y = Lᵀ`, `P₂ = P₁ᵀ`). -/
theorem cauchy_of_split_step {n : Type} [Fintype n] [DecidableEq n] {K : Type} [Field K] (X Y : ℕ → Matrix n n K)
    {B : Matrix n n K} {d : ℕ} (hd : 1 ≤ d) {Xinv Yinv P₁ P₂ : Matrix n n K} (hX : X 0 * Xinv = 1) (hY : Yinv * Y 0 = 1)
    (hXd : X d = X 0 * P₁) (hYd : Y d = P₂ * Y 0)
    (hP : P₁ + P₂ = Xinv * (B - ∑ k ∈ Ico 1 d, X (d - k) * Y k) * Yinv) :
    ∑ k ∈ range (d + 1), X k * Y (d - k) = B :=
  cauchy_of_ends (fun i j => X i * Y j) hd <| by
    rw [sum_Ico_flip fun i j => X i * Y j, hXd, hYd, ← Matrix.mul_assoc, ← Matrix.add_mul, ← Matrix.mul_add, add_comm, hP,
      ← Matrix.mul_assoc, ← Matrix.mul_assoc, hX, Matrix.one_mul, Matrix.mul_assoc, hY, Matrix.mul_one]

/-! ## The step equations

One order of a step is a function of the input at that order and of the lower orders of the output (`….unique`). -/
section
variable {n : Type} [Fintype n] {K : Type} [Field K]

/-- square case of `_qr_rectangular`, algorithms.py:1834-1924 -/
structure QRStep (lt : n → n → Prop) [DecidableRel lt]
    (A Q R : ℕ → Matrix n n K) (Rinv : Matrix n n K) (d : ℕ) where
  H : Matrix n n K
  S : Matrix n n K
  X : Matrix n n K
  hH : H = A d - ∑ k ∈ Finset.Ico 1 d, Q k * R (d - k)
  hS : S = (2 : K)⁻¹ • (-(∑ k ∈ Finset.Ico 1 d, (Q k)ᵀ * Q (d - k)))
  hX : X = PL lt ((Q 0)ᵀ * H * Rinv - S) - (PL lt ((Q 0)ᵀ * H * Rinv - S))ᵀ
  hR : R d = (Q 0)ᵀ * H - (S + X) * R 0
  hQ : Q d = Q 0 * (S + X)

/-- `UTPM.lu` (utpm.py:2459-2494) / `UTPM.lu2` (utpm.py:2515-2551): `dF = Wᵀ A_d − Σ_{1≤i<d} L_{d-i} U_i`, `F = L₀⁻¹ dF U₀⁻¹`, `U_d = triu(F) U₀`,
`L_d = L₀ tril(F, -1)` (`B = Wᵀ A` is the row-permuted input) -/
structure LUStep (lt : n → n → Prop) [DecidableRel lt]
    (B L U : ℕ → Matrix n n K) (L0inv U0inv : Matrix n n K) (d : ℕ) where
  dF : Matrix n n K
  F : Matrix n n K
  hdF : dF = B d - ∑ k ∈ Finset.Ico 1 d, L (d - k) * U k
  hF : F = L0inv * dF * U0inv
  hU : U d = PU lt F * U 0
  hL : L d = L 0 * PL lt F

variable {lt : n → n → Prop} [DecidableRel lt]

theorem QRStep.unique {A A' Q Q' R R' : ℕ → Matrix n n K} {Rinv : Matrix n n K} {d : ℕ} (hd : 1 ≤ d) (hA : A d = A' d)
    (hQ : ∀ k, k < d → Q k = Q' k) (hR : ∀ k, k < d → R k = R' k)
    (s : QRStep lt A Q R Rinv d) (s' : QRStep lt A' Q' R' Rinv d) : Q d = Q' d ∧ R d = R' d := by
  have eH : s.H = s'.H := by rw [s.hH, s'.hH, hA, sum_Ico_congr_lt (· * ·) hQ hR]
  have eS : s.S = s'.S := by rw [s.hS, s'.hS, sum_Ico_congr_lt (fun q q' : Matrix n n K => qᵀ * q') hQ hQ]
  have eX : s.X = s'.X := by rw [s.hX, s'.hX, eH, eS, hQ 0 hd]
  exact ⟨by rw [s.hQ, s'.hQ, eS, eX, hQ 0 hd], by rw [s.hR, s'.hR, eH, eS, eX, hQ 0 hd, hR 0 hd]⟩

theorem LUStep.unique {B B' L L' U U' : ℕ → Matrix n n K} {L0inv U0inv : Matrix n n K} {d : ℕ} (hd : 1 ≤ d)
    (hB : B d = B' d) (hL : ∀ k, k < d → L k = L' k) (hU : ∀ k, k < d → U k = U' k)
    (s : LUStep lt B L U L0inv U0inv d) (s' : LUStep lt B' L' U' L0inv U0inv d) : L d = L' d ∧ U d = U' d := by
  have eF : s.F = s'.F := by
    rw [s.hF, s'.hF, s.hdF, s'.hdF, hB, sum_Ico_congr_lt (fun u l : Matrix n n K => l * u) hU hL]
  exact ⟨by rw [s.hL, s'.hL, eF, hL 0 hd], by rw [s.hU, s'.hU, eF, hU 0 hd]⟩
end

section
variable {n : Type} [Fintype n] [DecidableEq n] {K : Type} [Field K]

/-- `_cholesky`, algorithms.py:1621-1674; the overwrite of the diagonal of `L_d` at its end (1667-1672) changes nothing when `L₀` is
lower triangular (`Φ(G)` is, so entry `(n, n)` of `L₀ Φ(G)` is already `½ (L₀)_nn G_nn`) -/
structure CholStep (lt : n → n → Prop) [DecidableRel lt]
    (A L : ℕ → Matrix n n K) (L0inv : Matrix n n K) (d : ℕ) where
  dF : Matrix n n K
  G : Matrix n n K
  hdF : dF = (∑ k ∈ Finset.Ico 1 d, L (d - k) * (L k)ᵀ) - A d
  hG : G = L0inv * dF * L0invᵀ
  hL : L d = -(L 0 * Phi lt G)

theorem CholStep.unique {lt : n → n → Prop} [DecidableRel lt] {A A' L L' : ℕ → Matrix n n K} {L0inv : Matrix n n K}
    {d : ℕ} (hd : 1 ≤ d) (hA : A d = A' d) (hL : ∀ k, k < d → L k = L' k) (s : CholStep lt A L L0inv d)
    (s' : CholStep lt A' L' L0inv d) : L d = L' d := by
  rw [s.hL, s'.hL, s.hG, s'.hG, s.hdF, s'.hdF, hA, hL 0 hd, sum_Ico_congr_lt (fun a b : Matrix n n K => b * aᵀ) hL hL]
end

section
variable {m n : Type} [Fintype m] [Fintype n] {K : Type} [Field K]

/-- `_qr_rectangular` with `M > N`: `A(t)` is `m × n` with linearly independent columns, `Q(t)` is `m × n` with orthonormal columns,
`R(t)` is `n × n`.  The loop body differs from the square case in its last step only: `Q_d = (H − Q_0 R_d) R_0⁻¹` (there is no
`Q_0 Q_0ᵀ = 1` to use). -/
structure QRTallStep (lt : n → n → Prop) [DecidableRel lt]
    (A Q : ℕ → Matrix m n K) (R : ℕ → Matrix n n K) (Rinv : Matrix n n K) (d : ℕ) where
  H : Matrix m n K
  S : Matrix n n K
  X : Matrix n n K
  hH : H = A d - ∑ k ∈ Finset.Ico 1 d, Q k * R (d - k)
  hS : S = (2 : K)⁻¹ • (-(∑ k ∈ Finset.Ico 1 d, (Q k)ᵀ * Q (d - k)))
  hX : X = PL lt ((Q 0)ᵀ * H * Rinv - S) - (PL lt ((Q 0)ᵀ * H * Rinv - S))ᵀ
  hR : R d = (Q 0)ᵀ * H - (S + X) * R 0
  hQ : Q d = (H - Q 0 * R d) * Rinv

/-- the last step of the tall loop reproduces the square case's `Q_d = Q_0 (S + X)` after projection by `Q_0ᵀ` -/
theorem QRTallStep.proj [DecidableEq n] {lt : n → n → Prop} [DecidableRel lt] {A Q : ℕ → Matrix m n K}
    {R : ℕ → Matrix n n K} {Rinv : Matrix n n K} {d : ℕ} (st : QRTallStep lt A Q R Rinv d) (h0 : (Q 0)ᵀ * Q 0 = 1)
    (hinv' : R 0 * Rinv = 1) : (Q 0)ᵀ * Q d = st.S + st.X := by
  rw [st.hQ, ← Matrix.mul_assoc, Matrix.mul_sub, ← Matrix.mul_assoc, h0, Matrix.one_mul, st.hR, sub_sub_cancel,
    Matrix.mul_assoc, hinv', Matrix.mul_one]
end

end AV.Factor
