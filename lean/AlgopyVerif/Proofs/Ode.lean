import AlgopyVerif.Proofs.Jet
/-!
# `_taylor_polynomials_of_ode_solutions` and `_dawsn`

`b(u) v'(u) - a(u) v(u) = c(u)`: with `V = v ∘ U` the chain rule gives `V' · B = U' · (C + A · V)`
for the composed germs.  The dynamic program computes the jet of `V`: after `k` rounds its three lists are
`(List.range k).map` of the sequences `e_j = tc (A·V) j`, `ṽ_j = j·tc V j`, `v_j = tc V j`.
-/
open Polynomial Filter Topology
open scoped ContDiff

namespace AV

theorem ode_jet {a b c u : List ℝ} {A B C U V : ℝ → ℝ}
    (ha : JetOf a A) (hb : JetOf b B) (hc : JetOf c C) (hu : JetOf u U)
    (hla : a.length = u.length) (hlb : b.length = u.length) (hlc : c.length = u.length)
    (hV : Smooth0 V) (hB0 : B 0 ≠ 0)
    (hode : deriv V * B =ᶠ[𝓝 0] deriv U * (C + A * V)) :
    JetOf (odeS a b c u (V 0)) V := by
  refine .of_eq_map_range hV (n := u.length) ?_
  let E : ℕ → ℝ := fun j => if j < u.length - 1 then tc (A * V) j else 0
  let VT : ℕ → ℝ := fun j => if j = 0 then V 0 else (j : ℝ) * tc V j
  -- the state `(e, ṽ, v)` after `k` rounds in closed form; left to show: one round takes state `k` to state `k + 1`
  refine congrArg (·.2.2) (foldl_range_eq _
    (fun k => ((List.range k).map E, (List.range k).map VT, (List.range k).map (tc V))) u.length fun k hk => ?_)
  have hAV : Smooth0 (A * V) := ha.smooth.mul hV
  have hCAV : Smooth0 (C + A * V) := hc.smooth.add hAV
  -- the model's `ek`: the new entry of `e`, once the new entry of `v` is known
  have hE : (if k < u.length - 1 then
      sumRange 0 (k+1) fun j => co a j * co ((List.range (k+1)).map (tc V)) (k-j) else 0) = E k := by
    simp only [E]
    split_ifs with hk1
    · simp (disch := omega) only [co_map_range, ha.coeff]
      rw [sumRange_eq, tc_mul_at ha.smooth hV]
      exact Finset.sum_congr rfl fun i _ => by rw [Nat.zero_add]
    · rfl
  rw [map_range_succ E, map_range_succ VT, map_range_succ (tc V), ← hE]
  cases k with
  | zero => simp [VT, tc_zero]
  | succ m =>
    have hB0' : tc B 0 ≠ 0 := by rwa [tc_zero]
    -- the model's `vtk = (s1 - s2) / b₀`, the new entry of `ṽ`: the identity `V'·B = U'·(C + A·V)` at order `m`
    have hvt : ((sumRange 1 (m+1+1) fun j => (co c (m+1-j) + co ((List.range (m+1)).map E) (m+1-j))
          * (if j = 0 then co u 0 else co u j * nat j))
        - (sumRange 1 (m+1) fun j => co b (m+1-j) * co ((List.range (m+1)).map VT) j)) / co b 0
        = ((m + 1 : ℕ) : ℝ) * tc V (m + 1) := by
      simp (disch := omega) only [co_map_range, hu.coeff, hc.coeff, hb.coeff, E, VT, if_neg, if_pos]
      rw [div_eq_iff hB0', mul_comm _ (tc B 0), tc_of_deriv_mul_eq hV hb.smooth hode m, tc_deriv_mul hu.smooth hCAV,
        sumRange_eq, sumRange_eq]
      simp only [Nat.add_sub_cancel, succ_sub_one_add, nat_eq]
      exact congrArg₂ _ (Finset.sum_congr rfl fun i _ => by rw [tc_add hc.smooth hAV]; ring)
        (Finset.sum_congr rfl fun i _ => by ring)
    simp only [Nat.succ_ne_zero, if_false]
    rw [hvt, nat_eq, mul_div_cancel_left₀ _ (by exact_mod_cast Nat.succ_ne_zero m), ← map_range_succ (tc V)]
    simp only [VT, Nat.succ_ne_zero, if_false]

theorem odeS_length (a b c u : List ℝ) (v0 : ℝ) : (odeS a b c u v0).length = u.length := by
  refine foldl_range_inv _ (fun k (st : List ℝ × List ℝ × List ℝ) => st.2.2.length = k) rfl (fun k st h => ?_) _
  obtain ⟨e, vt, v⟩ := st
  by_cases hk : k = 0 <;> simp [hk, h]

theorem JetOf.dawsn {x : List ℝ} {X : ℝ → ℝ} (hx : JetOf x X) (F : ℝ → ℝ)
    (hF : ∀ y, HasDerivAt F (1 - 2 * y * F y) y) (hFs : ContDiffAt ℝ ∞ F (X 0)) :
    JetOf (dawsnS (F (X 0)) x) (fun t => F (X t)) := by
  have hone : JetOf (constS 1 x.length) (fun _ => (1:ℝ)) := jetOf_const 1 _
  rw [dawsnS]
  refine ode_jet (V := fun t => F (X t)) (hx.scale (-(nat 2 : ℝ))) hone hone hx (by simp) (by simp) (by simp)
    (smooth0_comp hx.smooth hFs) one_ne_zero ?_
  filter_upwards [deriv_comp_of_hasDerivAt hx.smooth (.of_forall hF)] with t ht
  rw [Pi.mul_apply, ht, Pi.mul_apply, Pi.mul_apply, Pi.add_apply, Pi.mul_apply, nat_eq]
  ring

end AV
