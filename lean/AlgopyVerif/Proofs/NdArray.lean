import AlgopyVerif.Model.NdArray
import AlgopyVerif.Model.Index
/-!
# Index algebra of the mini-NumPy: `ravel`/`unravel` are mutually inverse on valid
indices, and `get (ofFn f) = f`.

`get` is total (a read outside the data gives the default) and no invariant `data.size = numel shape` is assumed:
`get` is characterised on `ofFn` only.
-/
namespace AV
open NdArray

/-- `idx` is a multi-index of `shape`: as many entries as axes, each below the length of its axis -/
def ValidIdx : List Nat → List Nat → Prop
  | [], [] => True
  | n :: ns, i :: is => i < n ∧ ValidIdx ns is
  | _, _ => False

theorem numel_nil : numel [] = 1 := rfl

theorem numel_cons (n : Nat) (ns : List Nat) : numel (n :: ns) = n * numel ns := by
  simp only [numel, prodN, ← List.prod_eq_foldl, List.prod_cons]

theorem ravel_lt : ∀ {s idx : List Nat}, ValidIdx s idx → ravel s idx < numel s
  | [], [], _ => by simp [ravel, numel_nil]
  | n :: ns, i :: is, h => by
    have ih := ravel_lt h.2
    simp only [ravel, numel_cons]
    calc i * numel ns + ravel ns is < i * numel ns + numel ns := Nat.add_lt_add_left ih _
      _ = (i + 1) * numel ns := (Nat.succ_mul _ _).symm
      _ ≤ n * numel ns := Nat.mul_le_mul_right _ h.1

theorem unravel_ravel : ∀ {s idx : List Nat}, ValidIdx s idx → unravel s (ravel s idx) = idx
  | [], [], _ => rfl
  | n :: ns, i :: is, h => by
    have hlt := ravel_lt h.2
    have hpos : 0 < numel ns := Nat.zero_lt_of_lt hlt
    simp only [ravel, unravel]
    rw [Nat.mul_comm i, Nat.mul_add_div hpos, Nat.div_eq_of_lt hlt, Nat.add_zero,
      Nat.mul_add_mod, Nat.mod_eq_of_lt hlt, unravel_ravel h.2]

theorem unravel_valid : ∀ {s : List Nat} {k : Nat}, k < numel s → ValidIdx s (unravel s k)
  | [], _, _ => by simp [unravel, ValidIdx]
  | n :: ns, k, h => by
    rw [numel_cons] at h
    have hpos : 0 < numel ns := Nat.pos_of_ne_zero fun h0 => by simp [h0] at h
    refine ⟨?_, unravel_valid (Nat.mod_lt _ hpos)⟩
    exact Nat.div_lt_of_lt_mul (by rw [Nat.mul_comm]; exact h)

theorem ravel_unravel : ∀ (s : List Nat) (k : Nat), k < numel s → ravel s (unravel s k) = k
  | [], k, h => by simp [numel_nil] at h; simp [ravel, h]
  | n :: ns, k, h => by
    rw [numel_cons] at h
    have hpos : 0 < numel ns := Nat.pos_of_ne_zero fun h0 => by simp [h0] at h
    simp only [unravel, ravel]
    rw [ravel_unravel ns _ (Nat.mod_lt _ hpos)]
    exact Nat.div_add_mod' k (numel ns)

theorem get_ofFn {α} [Inhabited α] (s : List Nat) (f : List Nat → α) (idx : List Nat) (h : ValidIdx s idx) :
    (ofFn s f).get idx = f idx := by
  unfold NdArray.get ofFn
  have hlt := ravel_lt h
  simp [hlt, unravel_ravel h]

theorem validIdx_length : ∀ {s idx : List Nat}, ValidIdx s idx → idx.length = s.length
  | [], [], _ => rfl
  | _ :: _, _ :: _, h => by simp [validIdx_length h.2]

theorem validIdx_append : ∀ {s idx t jdx : List Nat}, ValidIdx s idx → ValidIdx t jdx →
    ValidIdx (s ++ t) (idx ++ jdx)
  | [], [], _, _, _, h => h
  | _ :: _, _ :: _, _, _, h, h' => ⟨h.1, validIdx_append h.2 h'⟩

theorem mem_allIdx {s j : List Nat} : j ∈ allIdx s ↔ ValidIdx s j := by
  constructor
  · intro h
    obtain ⟨k, hk, rfl⟩ := List.mem_map.mp h
    exact unravel_valid (List.mem_range.mp hk)
  · intro h
    exact List.mem_map.mpr ⟨ravel s j, List.mem_range.mpr (ravel_lt h), unravel_ravel h⟩

end AV
