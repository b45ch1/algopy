import AlgopyVerif.Model.Convert
import AlgopyVerif.Proofs.NdArray
import AlgopyVerif.Proofs.Build
/-!
# The conversion helpers, coefficient by coefficient and element by element

`shift` by its coefficients, `vecsym` on a vector indexed by `triPairs`, `base_and_dirs2utpm` by its elements: the round
trips of C17 follow from these.
-/
namespace AV

section
variable {K : Type} [Field K]

@[simp] theorem shiftS_length (s : Int) (x : List K) : (shiftS s x).length = x.length := by
  unfold shiftS; split <;> rw [List.length_map, List.length_range]

theorem co_shiftS_up (s : Nat) {x : List K} {d : Nat} (hd : d < x.length) :
    co (shiftS (s : Int) x) d = if d < s then 0 else co x (d - s) := by
  unfold shiftS
  split
  · rw [co_map_range hd, Int.toNat_natCast]
  · obtain rfl : s = 0 := by omega
    rw [co_map_range hd]
    simp [hd]

/-- no `if` on the right: `co` is zero past the end -/
theorem co_shiftS_down (s : Nat) {x : List K} {d : Nat} (hd : d < x.length) :
    co (shiftS (-(s : Int)) x) d = co x (d + s) := by
  unfold shiftS
  rw [if_neg (by omega), co_map_range hd, neg_neg, Int.toNat_natCast]
  split
  · rfl
  · exact (co_of_ge x _ (by omega)).symm
end

theorem mem_triPairs {N r c : Nat} : (r, c) ∈ triPairs N ↔ r ≤ c ∧ c < N := by
  unfold triPairs
  simp only [List.mem_flatMap, List.mem_range, List.mem_map, Prod.mk.injEq]
  constructor
  · rintro ⟨a, ha, k, hk, rfl, rfl⟩; omega
  · rintro ⟨h1, h2⟩
    exact ⟨r, h1.trans_lt h2, c - r, Nat.sub_lt_sub_right h1 h2, rfl, Nat.add_sub_of_le h1⟩

theorem nodup_triPairs (N : Nat) : (triPairs N).Nodup := by
  unfold triPairs
  rw [List.nodup_flatMap]
  constructor
  · intro r _
    exact List.nodup_range.map (fun a b h => by simpa using h)
  · apply List.Nodup.pairwise_of_forall_ne List.nodup_range
    intro a _ b _ hab
    simp only [Function.onFun, List.disjoint_left, List.mem_map, List.mem_range]
    rintro x ⟨k, _, rfl⟩ ⟨k', _, h⟩
    simp only [Prod.mk.injEq] at h
    exact hab h.1.symm

section
variable {K : Type} [Field K]

/-- `vecsym` of a vector indexed by `triPairs N` reads the entry of the pair `(min r c, max r c)`: one fact for the three
storage conventions of `symvec` -/
theorem vecsymF_map {N : Nat} (g : Nat × Nat → K) {r c : Nat} (hr : r < N) (hc : c < N) :
    vecsymF N ((triPairs N).map g) r c = g (min r c, max r c) := by
  have hmem : (min r c, max r c) ∈ triPairs N := mem_triPairs.mpr ⟨min_le_max, max_lt hr hc⟩
  have hlt := List.idxOf_lt_length_of_mem hmem
  rw [vecsymF, co, List.getD_eq_getElem?_getD, List.getElem?_map, List.getElem?_eq_getElem hlt, List.getElem_idxOf hlt]
  rfl

/-- a list as long as a duplicate-free list `l` is `l.map g`, with `g` reading it at the position of its argument -/
theorem map_co_idxOf {α} [DecidableEq α] {l : List α} (hl : l.Nodup) {v : List K} (hv : v.length = l.length) :
    l.map (fun a => co v (l.idxOf a)) = v := by
  refine List.ext_getElem (by simp [hv]) fun k h1 h2 => ?_
  rw [List.getElem_map, hl.idxOf_getElem k (by simpa using h1), co, List.getD_eq_getElem _ _ h2]

theorem half_add_self [CharZero K] (a : K) : (a + a) / nat 2 = a := by
  have h2 : ((2 : ℕ) : K) ≠ 0 := Nat.cast_ne_zero.mpr (by decide)
  show (a + a) / ((2 : ℕ) : K) = a
  rw [Nat.cast_ofNat] at h2 ⊢
  rw [← two_mul, mul_div_cancel_left₀ a h2]

end

section
variable {K : Type} [Field K]
attribute [local instance] inh0

/-- the two trailing axes `[a, b]` behind a block of `n` axes, as `base_and_dirs2utpm` and `utpm2base_and_dirs` address them -/
theorem append_two {l : List Nat} {n : Nat} (a b : Nat) (hl : l.length = n) :
    (l ++ [a, b]).take n = l ∧ (l ++ [a, b]).getD n 0 = a ∧ (l ++ [a, b]).getD (n + 1) 0 = b := by
  subst hl
  simp

theorem baseDirs2utpm_shape {x V : NdArray K} {s : List Nat} {P D : Nat} (hx : x.shape = s)
    (hV : V.shape = s ++ [P, D]) : (baseDirs2utpm x V).shape = (D+1) :: P :: s := by
  obtain ⟨-, hP, hD⟩ := append_two (l := s) P D rfl
  rw [baseDirs2utpm, hx, hV, hP, hD]
  rfl

theorem get_baseDirs2utpm {x V : NdArray K} {s : List Nat} {P D : Nat} (hx : x.shape = s)
    (hV : V.shape = s ++ [P, D]) {d p : Nat} {idx : List Nat} (hv : ValidIdx ((D+1) :: P :: s) (d :: p :: idx)) :
    (baseDirs2utpm x V).get (d :: p :: idx) = if d = 0 then x.get idx else V.get (idx ++ [p, d - 1]) := by
  obtain ⟨-, hP, hD⟩ := append_two (l := s) P D rfl
  rw [baseDirs2utpm, hx, hV, hP, hD, get_ofFn _ _ _ hv]

end
end AV
