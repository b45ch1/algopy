import AlgopyVerif.Model.Drivers
import AlgopyVerif.Proofs.Build
import Mathlib.Tactic.Ring
/-!
# The seed tables of `init_hessian` and `init_hess_vec` for every `N`

`hessDirs N` is the concatenation of blocks `n = 0 … N-1`, block `n` holding the `n+1` directions
`e_n, e_n + e_{n-1}, …, e_n + e_0`.  Position of `e_n`: `hessA n = n(n+1)/2`; of `e_n + e_m` (`m < n`):
`hessK n m = (n+1)(n+2)/2 - m - 1 = hessA n + (n - m)` — the index arithmetic of `extract_hessian`.
-/
namespace AV

theorem hessA_succ (n : ℕ) : hessA (n + 1) = hessA n + (n + 1) := by
  unfold hessA
  have : (n + 1) * (n + 1 + 1) = n * (n + 1) + 2 * (n + 1) := by ring
  rw [this, Nat.add_mul_div_left _ _ (by norm_num : 0 < 2)]

theorem hessK_eq (n m : ℕ) (h : m < n) : hessK n m = hessA n + (n - m) := by
  unfold hessK
  have := hessA_succ n
  unfold hessA at this ⊢
  rw [this]
  omega

/-- `j`-th element of block `n` in a `flatMap` whose block `n'` has length `n'+1` -/
theorem getD_flatMap_tri {α} (f : ℕ → List α) (hf : ∀ n, (f n).length = n + 1) (d : α) (N : ℕ) :
    ((List.range N).flatMap f).length = hessA N ∧
      ∀ n j, n < N → j ≤ n → ((List.range N).flatMap f).getD (hessA n + j) d = (f n).getD j d := by
  induction N with
  | zero => exact ⟨rfl, fun n j hn => absurd hn (Nat.not_lt_zero n)⟩
  | succ N ih =>
    obtain ⟨hlen, hget⟩ := ih
    rw [List.range_succ, List.flatMap_append, List.flatMap_singleton]
    refine ⟨by rw [List.length_append, hlen, hf, hessA_succ], fun n j hn hj => ?_⟩
    rcases Nat.lt_succ_iff_lt_or_eq.mp hn with hnN | rfl
    · -- an earlier block: it ends before position `hessA N`
      have : hessA (n + 1) ≤ hessA N := Nat.div_le_div_right (Nat.mul_le_mul hnN (Nat.succ_le_succ hnN))
      rw [hessA_succ] at this
      rw [List.getD_append _ _ _ _ (by omega)]
      exact hget n j hnN hj
    · rw [List.getD_append_right _ _ _ _ (hlen ▸ Nat.le_add_right _ _), hlen, Nat.add_sub_cancel_left]

theorem hessDirs_block (K : Type) [Add K] [Zero K] [One K] (N n : ℕ) :
    ((List.range (n+1)).map fun j =>
      (List.range N).map fun i => (if i = n then (1:K) else 0) + (if j ≠ 0 ∧ i = n - j then 1 else 0)).length = n + 1 := by
  simp

theorem hessDirs_table (N : ℕ) :
    (hessDirs (K := ℚ) N).length = N * (N + 1) / 2
    ∧ (∀ n, n < N → (hessDirs (K := ℚ) N).getD (hessA n) [] = unitVec N n)
    ∧ (∀ n m, n < N → m < n →
        (hessDirs (K := ℚ) N).getD (hessK n m) [] = addS (unitVec N n) (unitVec N m)) := by
  -- `f` is found by unification with the lambda of `hessDirs`; `key.1` is the length claim up to unfolding `hessDirs`, `hessA`
  have key := getD_flatMap_tri _ (hessDirs_block ℚ N) ([] : List ℚ) N
  refine ⟨key.1, fun n hn => ?_, fun n m hn hm => ?_⟩
  · exact (key.2 n 0 hn (Nat.zero_le n)).trans (by rw [getD_map_range (by omega)]; simp [unitVec])
  · rw [hessK_eq n m hm]
    refine (key.2 n (n - m) hn (Nat.sub_le n m)).trans ?_
    rw [getD_map_range (by omega)]
    unfold addS unitVec
    simp only [List.length_map, List.length_range]
    refine List.map_congr_left fun i hi => ?_
    have hi' := List.mem_range.mp hi
    rw [co_map_range hi', co_map_range hi', Nat.sub_sub_self hm.le]
    simp [Nat.sub_ne_zero_of_lt hm]

theorem hessVecDirs_table (N : ℕ) (v : List ℚ) (hv : v.length = N) :
    (hessVecDirs N v).length = 2 * N + 1
    ∧ (hessVecDirs N v).getD (2 * N) [] = v
    ∧ (∀ n, n < N → (hessVecDirs N v).getD n [] = unitVec N n)
    ∧ (∀ n, n < N → (hessVecDirs N v).getD (n + N) [] = addS v (unitVec N n)) := by
  unfold hessVecDirs jacDirs
  refine ⟨by simp [two_mul, Nat.add_assoc], ?_, fun n hn => ?_, fun n hn => ?_⟩
  · rw [List.getD_append_right _ _ _ _ (by simp [two_mul])]
    simp [two_mul]
  · rw [List.append_assoc, List.getD_append _ _ _ _ (by simpa using hn), getD_map_range hn]
  · rw [List.getD_append _ _ _ _ (by simpa using hn), List.getD_append_right _ _ _ _ (by simp)]
    simp only [List.length_map, List.length_range, Nat.add_sub_cancel]
    rw [getD_map_range hn]
    unfold addS unitVec
    rw [hv]
    exact List.map_congr_left fun i hi => by rw [co_map_range (List.mem_range.mp hi)]

theorem hessTableOK_all (N : ℕ) : hessTableOK N = true := by
  obtain ⟨hlen, hA, hK⟩ := hessDirs_table N
  simp only [hessTableOK, Bool.and_eq_true, beq_iff_eq, List.all_eq_true, List.mem_range]
  exact ⟨hlen, fun n hn => ⟨hA n hn, fun m hm => hK n m hn hm⟩⟩

theorem hessVecTableOK_all (N : ℕ) (v : List ℚ) (hv : v.length = N) : hessVecTableOK N v = true := by
  obtain ⟨hlen, hlast, hU, hS⟩ := hessVecDirs_table N v hv
  simp only [hessVecTableOK, Bool.and_eq_true, beq_iff_eq, List.all_eq_true, List.mem_range]
  exact ⟨⟨hlen, hlast⟩, fun n hn => ⟨hU n hn, hS n hn⟩⟩

end AV
