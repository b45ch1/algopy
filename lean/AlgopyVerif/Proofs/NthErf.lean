import AlgopyVerif.Proofs.NthDeriv
import Mathlib.Analysis.Calculus.Deriv.Polynomial
/-!
# n-th derivatives of `erf` / `erfi`-like functions: `E' = c · exp(s y²)` (`s = -1`: erf, `s = +1`: erfi)

`E⁽ᴺ⁺¹⁾(x) = c · exp(s x²) · R_N(x)` with `R_0 = 1`, `R_{N+1} = R_N' + 2 s X R_N` (up to sign the physicists'
Hermite polynomials), `R_{N+1}' = 2 s (N+1) R_N`, hence the explicit coefficients
`coeff R_{2n+k} k = s^{n+k} 2^k (2n+k)! / (k! n!)` — the finite sum `nthderiv.erf/erfi` evaluates.
-/
open Polynomial

namespace AV

noncomputable def erfR (s : ℝ) : ℕ → ℝ[X]
  | 0 => 1
  | N + 1 => derivative (erfR s N) + C (2 * s) * X * erfR s N

theorem erfR_chain (s c : ℝ) (N : ℕ) (x : ℝ) :
    HasDerivAt (fun y => c * Real.exp (s * (y * y)) * (erfR s N).eval y)
      (c * Real.exp (s * (x * x)) * (erfR s (N + 1)).eval x) x := by
  have h1 : HasDerivAt (fun y : ℝ => Real.exp (s * (y * y))) (Real.exp (s * (x * x)) * (s * (1 * x + x * 1))) x :=
    (((hasDerivAt_id x).mul (hasDerivAt_id x)).const_mul s).exp
  have h2 := (erfR s N).hasDerivAt x
  have h := ((h1.mul h2).const_mul c)
  refine (h.congr_deriv ?_).congr_of_eventuallyEq ?_
  · simp only [erfR, eval_add, eval_mul, eval_C, eval_X]
    ring
  · exact Filter.Eventually.of_forall fun y => by simp only [Pi.mul_apply]; ring

theorem iteratedDeriv_exp_sq (s c : ℝ) (n : ℕ) (x : ℝ) :
    iteratedDeriv n (fun y => c * Real.exp (s * (y * y))) x = c * Real.exp (s * (x * x)) * (erfR s n).eval x := by
  simpa [erfR] using iteratedDeriv_of_chain Set.univ isOpen_univ
    (fun n y => c * Real.exp (s * (y * y)) * (erfR s n).eval y) (fun n y _ => erfR_chain s c n y) n x (Set.mem_univ x)

theorem coeff_erfR_succ_zero (s : ℝ) (N : ℕ) : coeff (erfR s (N + 1)) 0 = coeff (erfR s N) 1 := by
  simp [erfR, coeff_derivative, mul_assoc]

theorem coeff_erfR_succ_succ (s : ℝ) (N k : ℕ) :
    coeff (erfR s (N + 1)) (k + 1) = ((k : ℝ) + 2) * coeff (erfR s N) (k + 2) + 2 * s * coeff (erfR s N) k := by
  simp only [erfR, coeff_add, coeff_derivative, mul_assoc, coeff_C_mul, coeff_X_mul]
  push_cast
  ring

theorem coeff_erfR_of_lt (s : ℝ) : ∀ (N k : ℕ), N < k → coeff (erfR s N) k = 0 := by
  intro N
  induction N with
  | zero =>
    intro k hk
    simp only [erfR]
    rw [coeff_one]; simp; omega
  | succ N ih =>
    intro k hk
    cases k with
    | zero => omega
    | succ k => rw [coeff_erfR_succ_succ, ih (k + 2) (by omega), ih k (by omega)]; ring

theorem derivative_erfR_succ (s : ℝ) :
    ∀ N : ℕ, derivative (erfR s (N + 1)) = C (2 * s) * ((N : ℝ[X]) + 1) * erfR s N
  | 0 => by simp [erfR]
  | N + 1 => by
    have ih := derivative_erfR_succ s N
    have hR : erfR s (N + 1) = derivative (erfR s N) + C (2 * s) * X * erfR s N := rfl
    rw [erfR, derivative_add, ih]
    simp only [derivative_mul, derivative_C, derivative_X, derivative_add, derivative_natCast, derivative_one, ih]
    rw [hR]
    push_cast
    ring

theorem coeff_erfR_succ_mul (s : ℝ) (N k : ℕ) :
    ((k : ℝ) + 1) * coeff (erfR s (N + 1)) (k + 1) = 2 * s * (N + 1) * coeff (erfR s N) k := by
  have h := congrArg (fun p => coeff p k) (derivative_erfR_succ s N)
  simp only [coeff_derivative, mul_assoc, coeff_C_mul, ← C_eq_natCast, ← C_1, ← C_add] at h
  linear_combination h

open scoped Nat in
/-- multiplicative form, so that no division occurs: along `k` by `coeff_erfR_succ_mul`; the constant coefficient of
`R_{2n+2}` is the linear one of `R_{2n+1}` -/
theorem coeff_erfR_explicit (s : ℝ) :
    ∀ n k : ℕ, ((k ! : ℝ) * (n ! : ℝ)) * coeff (erfR s (2 * n + k)) k = s ^ (n + k) * 2 ^ k * ((2 * n + k) ! : ℝ)
  | 0, 0 => by simp [erfR]
  | n + 1, 0 => by
    have ih := coeff_erfR_explicit s n 1
    rw [show 2 * (n + 1) + 0 = (2 * n + 1) + 1 by ring, coeff_erfR_succ_zero, Nat.factorial_succ (2 * n + 1),
      Nat.factorial_succ n]
    push_cast
    linear_combination ((n : ℝ) + 1) * ih
  | n, k + 1 => by
    have ih := coeff_erfR_explicit s n k
    have h := coeff_erfR_succ_mul s (2 * n + k) k
    rw [show 2 * n + (k + 1) = (2 * n + k) + 1 by ring, Nat.factorial_succ (2 * n + k), Nat.factorial_succ k]
    push_cast at h ⊢
    linear_combination ((k ! : ℝ) * (n ! : ℝ)) * h + 2 * s * (2 * (n : ℝ) + k + 1) * ih
termination_by n k => 2 * n + k
decreasing_by all_goals omega

theorem coeff_erfR_of_odd_add (s : ℝ) : ∀ (N k : ℕ), (N + k) % 2 = 1 → coeff (erfR s N) k = 0 := by
  intro N
  induction N with
  | zero =>
    intro k hk
    simp only [erfR]
    rw [coeff_one]; simp; omega
  | succ N ih =>
    intro k hk
    cases k with
    | zero => rw [coeff_erfR_succ_zero]; exact ih 1 (by omega)
    | succ k => rw [coeff_erfR_succ_succ, ih (k + 2) (by omega), ih k (by omega)]; ring

open scoped Nat in
theorem pochK_nat (j m : ℕ) : pochK (((j + 1 : ℕ) : ℝ)) m * (j ! : ℝ) = ((j + m) ! : ℝ) := by
  rw [pochK_eq, ascPochhammer_nat_eq_natCast_ascFactorial, ← Nat.cast_mul, mul_comm, Nat.factorial_mul_ascFactorial]

theorem erfR_eval (s x : ℝ) (N : ℕ) :
    (erfR s N).eval x = ∑ j ∈ Finset.range (N + 1), coeff (erfR s N) j * x ^ j := by
  rw [Polynomial.eval_eq_sum_range' (n := N + 1)]
  rw [Nat.lt_succ_iff, Polynomial.natDegree_le_iff_coeff_eq_zero]
  intro k hk
  exact coeff_erfR_of_lt s N k hk

open scoped Nat in
/-- the model's `k`-th term, in the coordinates `j = 2k+1-n` (power of `x`) and `m = n-1-k`, is one monomial of `R_N` -/
theorem erfModelTerm (alt : Bool) (x : ℝ) (k j m : ℕ) (hk : k = m + j) :
    (if alt then negOnePow k else 1) * powN (nat 2) j * powN x j * pochK (nat (j + 1)) (2 * m) / nat (fact m)
      = coeff (erfR (if alt then -1 else 1) (2 * m + j)) j * x ^ j := by
  have hsgn : (if alt then (negOnePow k : ℝ) else 1) = (if alt then (-1:ℝ) else 1) ^ (m + j) := by
    subst hk; cases alt; exacts [(one_pow _).symm, negOnePow_eq _]
  have h := coeff_erfR_explicit (if alt then -1 else 1) m j
  have hp := pochK_nat j (2 * m)
  rw [add_comm j (2 * m)] at hp
  have hj : ((j ! : ℕ) : ℝ) ≠ 0 := by exact_mod_cast (Nat.factorial_ne_zero j)
  have hm : ((m ! : ℕ) : ℝ) ≠ 0 := by exact_mod_cast (Nat.factorial_ne_zero m)
  rw [hsgn, powN_eq, powN_eq, fact_eq, nat_eq, nat_eq, nat_eq, div_eq_iff hm]
  apply mul_right_cancel₀ hj
  linear_combination ((if alt then (-1:ℝ) else 1) ^ (m + j) * 2 ^ j * x ^ j) * hp - x ^ j * h

/-- only the `j` of the parity of `N` contribute, and `j = 2k - N` runs through them as `k` runs from `⌈N/2⌉` to `N` -/
theorem sum_range_same_parity {M : Type*} [AddCommMonoid M] (N : ℕ) (h : ℕ → M) (hodd : ∀ j, (N + j) % 2 = 1 → h j = 0) :
    ∑ k ∈ Finset.range (N + 1), (if 2 * k < N then 0 else h (2 * k - N)) = ∑ j ∈ Finset.range (N + 1), h j := by
  refine Finset.sum_bij_ne_zero (fun k _ _ => 2 * k - N) ?_ ?_ ?_ ?_
  · intro k hk _
    have := Finset.mem_range.mp hk
    exact Finset.mem_range.mpr (by omega)
  · intro k₁ _ n₁ k₂ _ n₂ e
    have p₁ : ¬ 2 * k₁ < N := fun hc => n₁ (if_pos hc)
    have p₂ : ¬ 2 * k₂ < N := fun hc => n₂ (if_pos hc)
    omega
  · intro j hj hne
    have hj' := Finset.mem_range.mp hj
    have p : (N + j) % 2 = 0 := (Nat.mod_two_eq_zero_or_one _).resolve_right fun hc => hne (hodd j hc)
    have e : 2 * ((N + j) / 2) - N = j := by
      rw [Nat.mul_div_cancel' (Nat.dvd_of_mod_eq_zero p), Nat.add_sub_cancel_left]
    refine ⟨(N + j) / 2, Finset.mem_range.mpr (by omega), ?_, e⟩
    rw [if_neg (by omega), e]
    exact hne
  · intro k _ hne
    have p : ¬ 2 * k < N := fun hc => hne (if_pos hc)
    rw [if_neg p]

theorem erfPoly_eq (alt : Bool) (x : ℝ) (N : ℕ) :
    erfPoly alt x (N + 1) = (erfR (if alt then -1 else 1) N).eval x := by
  rw [erfR_eval, ← sum_range_same_parity N _ fun j hj => by rw [coeff_erfR_of_odd_add _ N j hj, zero_mul],
    erfPoly, sumRange_eq]
  refine Finset.sum_congr rfl fun k hk => ?_
  have hk' := Finset.mem_range.mp hk
  rw [Nat.zero_add]
  by_cases h2 : 2 * k < N
  · rw [if_pos h2, if_pos (by omega)]
  · have ht := erfModelTerm alt x k (2 * k - N) (N - k) (by omega)
    rw [show 2 * (N - k) + (2 * k - N) = N by omega] at ht
    rw [if_neg h2, if_neg (h2 ∘ Nat.lt_of_succ_lt_succ), show 2 * k + 1 - (N + 1) = 2 * k - N by omega,
      show 2 * k + 2 - (N + 1) = 2 * k - N + 1 by omega, show N + 1 - 1 - k = N - k by omega, ht]

end AV
