import AlgopyVerif.Proofs.Factor
import Mathlib.Tactic.LinearCombination
/-!
# One order of the symmetric eigendecomposition (`UTPM._eigh1`)

`_eigh1` solves the *relaxed* problem `Qᵀ A Q = Λ` (block diagonal in the clusters of equal eigenvalues of
`A₀`), `QᵀQ = I`.  Given the coefficients below order `d`, the step

    G = Σ_{0<k<d} Q_kᵀ Q_{d-k},  S = -G/2,  F = Σ_{i+j+k=d, i,j,k<d} Q_iᵀ A_j Q_k,
    K = F + Q₀ᵀ A_d Q₀ + S Λ₀ + Λ₀ S,  Λ_d = K on the blocks,  X = K ∘ H,  Q_d = Q₀ (X + S)

(`H_rc = 1/(λ_c - λ_r)` across blocks, `0` inside; below `K`, `H` are written `Km`, `Hm`, `K` being the field of scalars) gives
`(QᵀQ)_d = 0` and `(QᵀAQ)_d = Λ_d` (C08 `eigh_orthogonality`, `eigh_defining_equation`).  For distinct eigenvalues the blocks are
singletons and `Λ_d` is diagonal.
-/
open Matrix Finset

namespace AV.Factor
section triple
variable {n : Type} [Fintype n] {K : Type} [Field K]

def tripleAll (X Y Z : ℕ → Matrix n n K) (d : ℕ) : Matrix n n K :=
  ∑ i ∈ range (d + 1), ∑ j ∈ range (d + 1), ∑ k ∈ range (d + 1), if i + j + k = d then X i * Y j * Z k else 0

/-- the part that does not involve order `d` of any factor (`truncated_triple_dot`) -/
def tripleLow (X Y Z : ℕ → Matrix n n K) (d : ℕ) : Matrix n n K :=
  ∑ i ∈ range d, ∑ j ∈ range d, ∑ k ∈ range d, if i + j + k = d then X i * Y j * Z k else 0

theorem sum_sum_ite_zero {M : Type*} [AddCommMonoid M] {s t : Finset ℕ} (hs : 0 ∈ s) (ht : 0 ∈ t) {p : ℕ → ℕ → Prop}
    [∀ a b, Decidable (p a b)] (hp : ∀ a b, p a b ↔ a = 0 ∧ b = 0) (g : ℕ → ℕ → M) :
    ∑ a ∈ s, ∑ b ∈ t, (if p a b then g a b else 0) = g 0 0 := by
  rw [sum_eq_single_of_mem 0 hs, sum_eq_single_of_mem 0 ht, if_pos ((hp 0 0).mpr ⟨rfl, rfl⟩)]
  · intro b _ hb; exact if_neg fun h => hb ((hp 0 b).mp h).2
  · intro a _ ha; exact sum_eq_zero fun b _ => if_neg fun h => ha ((hp a b).mp h).1

theorem tripleAll_split (X Y Z : ℕ → Matrix n n K) (d : ℕ) (hd : 1 ≤ d) :
    tripleAll X Y Z d = tripleLow X Y Z d + X d * Y 0 * Z 0 + X 0 * Y d * Z 0 + X 0 * Y 0 * Z d := by
  unfold tripleAll tripleLow
  have h0 : 0 ∈ range d := mem_range.mpr (by omega)
  -- of the eight pieces, those with two indices `d` vanish; where one index is `d` the other two are `0`
  simp only [sum_range_succ, sum_add_distrib]
  rw [sum_sum_ite_zero h0 h0 (fun i j => by omega), sum_sum_ite_zero h0 h0 (fun i k => by omega),
    sum_sum_ite_zero h0 h0 (fun j k => by omega)]
  simp (disch := omega) only [if_neg, sum_const_zero, add_zero]

theorem tripleLow_transpose (Q A : ℕ → Matrix n n K) (hA : ∀ k, (A k)ᵀ = A k) (d : ℕ) :
    (tripleLow (fun k => (Q k)ᵀ) A Q d)ᵀ = tripleLow (fun k => (Q k)ᵀ) A Q d := by
  unfold tripleLow
  simp only [transpose_sum]
  rw [sum_comm, sum_comm_cycle]
  refine sum_congr rfl fun k _ => sum_congr rfl fun j _ => sum_congr rfl fun i _ => ?_
  exact (apply_ite transpose _ _ _).trans <| if_congr (by omega)
    (by rw [transpose_mul, transpose_mul, transpose_transpose, hA j, Matrix.mul_assoc]) transpose_zero

theorem tripleLow_congr {X X' Y Y' Z Z' : ℕ → Matrix n n K} {d : ℕ}
    (hX : ∀ k, k < d → X k = X' k) (hY : ∀ k, k < d → Y k = Y' k) (hZ : ∀ k, k < d → Z k = Z' k) :
    tripleLow X Y Z d = tripleLow X' Y' Z' d :=
  sum_congr rfl fun i hi => sum_congr rfl fun j hj => sum_congr rfl fun k hk => by
    rw [hX i (mem_range.mp hi), hY j (mem_range.mp hj), hZ k (mem_range.mp hk)]

end triple

theorem Hm_antisymm {n K : Type} [Field K] (same : n → n → Prop) (l : n → K) (Hm : Matrix n n K)
    (hss : ∀ r c, same r c → same c r) (hH0 : ∀ r c, same r c → Hm r c = 0)
    (hH1 : ∀ r c, ¬ same r c → Hm r c * (l c - l r) = 1) (r c : n) : Hm c r = -Hm r c := by
  by_cases h : same r c
  · rw [hH0 r c h, hH0 c r (hss r c h), neg_zero]
  · have e1 := hH1 r c h
    have e2 := hH1 c r fun hc => h (hss c r hc)
    have hne : l c - l r ≠ 0 := fun hz => zero_ne_one (by rw [← e1, hz, mul_zero])
    exact mul_right_cancel₀ hne (by linear_combination e1 - e2)

variable {n : Type} [Fintype n] [DecidableEq n] {K : Type} [Field K]

/-- `_eigh1`, algorithms.py:2139-2243 -/
structure Eigh1Step (same : n → n → Prop) [DecidableRel same]
    (A Q L : ℕ → Matrix n n K) (l : n → K) (Hm : Matrix n n K) (d : ℕ) where
  G : Matrix n n K
  S : Matrix n n K
  Km : Matrix n n K
  X : Matrix n n K
  hG : G = ∑ k ∈ Finset.Ico 1 d, (Q k)ᵀ * Q (d - k)
  hS : S = (2 : K)⁻¹ • (-G)
  hK : Km = tripleLow (fun k => (Q k)ᵀ) A Q d + (Q 0)ᵀ * A d * Q 0 + S * diagonal l + diagonal l * S
  hL : L d = Matrix.of fun r c => if same r c then Km r c else 0
  hX : X = Matrix.of fun r c => Km r c * Hm r c
  hQ : Q d = Q 0 * (X + S)

section
variable {same : n → n → Prop} [DecidableRel same] {A Q L : ℕ → Matrix n n K} {l : n → K} {Hm : Matrix n n K} {d : ℕ}

theorem Eigh1Step.S_symm (st : Eigh1Step same A Q L l Hm d) : st.Sᵀ = st.S := by
  rw [st.hS, transpose_smul, transpose_neg, st.hG, transpose_sum_Ico_gram]

theorem Eigh1Step.K_symm (st : Eigh1Step same A Q L l Hm d) (hA : ∀ k, (A k)ᵀ = A k) : st.Kmᵀ = st.Km := by
  rw [st.hK]
  simp only [transpose_add, transpose_mul, transpose_transpose, diagonal_transpose]
  rw [tripleLow_transpose Q A hA d, hA d, st.S_symm, Matrix.mul_assoc]
  abel

theorem Eigh1Step.X_antisymm (st : Eigh1Step same A Q L l Hm d) (hA : ∀ k, (A k)ᵀ = A k)
    (hss : ∀ r c, same r c → same c r) (hH0 : ∀ r c, same r c → Hm r c = 0)
    (hH1 : ∀ r c, ¬ same r c → Hm r c * (l c - l r) = 1) : st.Xᵀ = -st.X := by
  ext r c
  have hk : st.Km c r = st.Km r c := by
    have := congrFun (congrFun (st.K_symm hA) r) c
    simpa using this
  rw [transpose_apply, neg_apply, st.hX, of_apply, of_apply, hk, Hm_antisymm same l Hm hss hH0 hH1 r c]
  ring

theorem Eigh1Step.proj (st : Eigh1Step same A Q L l Hm d) (h0 : (Q 0)ᵀ * Q 0 = 1) : (Q 0)ᵀ * Q d = st.S + st.X := by
  rw [st.hQ, ← Matrix.mul_assoc, h0, Matrix.one_mul, add_comm]

/-- collecting the terms of `(QᵀAQ)_d` that involve order `d`: `(QᵀAQ)_d = K + Λ₀ X − X Λ₀` -/
theorem Eigh1Step.tripleAll_eq (st : Eigh1Step same A Q L l Hm d) (hd : 1 ≤ d) (h0 : (Q 0)ᵀ * Q 0 = 1)
    (hA : ∀ k, (A k)ᵀ = A k) (hA0 : A 0 * Q 0 = Q 0 * diagonal l) (hX : st.Xᵀ = -st.X) :
    tripleAll (fun k => (Q k)ᵀ) A Q d = st.Km + (diagonal l * st.X - st.X * diagonal l) := by
  have hA0' : (Q 0)ᵀ * A 0 = diagonal l * (Q 0)ᵀ := by
    rw [← hA 0, ← transpose_mul, hA0, transpose_mul, diagonal_transpose]
  have hpT : (Q d)ᵀ * Q 0 = st.S - st.X := by
    rw [← transpose_transpose (Q 0), ← transpose_mul, st.proj h0, transpose_add, st.S_symm, hX, sub_eq_add_neg]
  have e1 : (Q d)ᵀ * A 0 * Q 0 = (st.S - st.X) * diagonal l := by
    rw [Matrix.mul_assoc, hA0, ← Matrix.mul_assoc, hpT]
  have e2 : (Q 0)ᵀ * A 0 * Q d = diagonal l * (st.S + st.X) := by
    rw [hA0', Matrix.mul_assoc, st.proj h0]
  rw [tripleAll_split _ _ _ d hd, e1, e2, st.hK]
  simp only [Matrix.sub_mul, Matrix.mul_add]
  abel

theorem Eigh1Step.unique {A' Q' L' : ℕ → Matrix n n K} (hd : 1 ≤ d) (hA : ∀ k, k ≤ d → A k = A' k)
    (hQ : ∀ k, k < d → Q k = Q' k) (s : Eigh1Step same A Q L l Hm d) (s' : Eigh1Step same A' Q' L' l Hm d) :
    Q d = Q' d ∧ L d = L' d := by
  have eS : s.S = s'.S := by
    rw [s.hS, s'.hS, s.hG, s'.hG, sum_Ico_congr_lt (fun q q' : Matrix n n K => qᵀ * q') hQ hQ]
  have eK : s.Km = s'.Km := by
    rw [s.hK, s'.hK, eS, hA d le_rfl, hQ 0 hd, tripleLow_congr (X' := fun k => (Q' k)ᵀ) (Y' := A') (Z' := Q')
      (fun k hk => congrArg transpose (hQ k hk)) (fun k hk => hA k hk.le) hQ]
  exact ⟨by rw [s.hQ, s'.hQ, s.hX, s'.hX, eK, eS, hQ 0 hd], by rw [s.hL, s'.hL, eK]⟩

end
end AV.Factor
