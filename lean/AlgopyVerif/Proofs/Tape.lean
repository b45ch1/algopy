import Mathlib.Algebra.BigOperators.Ring.Finset
import Mathlib.Tactic.Ring
/-!
# The cell-level tape: the reverse sweep is the adjoint of the tangent sweep

Values and adjoints live in heaps `Nat → A` over a commutative ring `A` (for algopy:
`A = R[t]/(t^D)` per direction).  A tape is a list of instructions

* `comp c`  : a fresh destination cell computed from argument cells (`c.f`), with tangent map
  `c.df` and pullback `c.pb` (what a `pb_*` function adds to the argument adjoints);
* `write d s`: an in-place overwrite `cell d := cell s` (`Function.__setitem__` on one cell); the
  reverse step is the repaired `pb___setitem__`: save `bar d`, clear it, add the saved value to
  `bar s` — which is also right for `d = s`.

`tape_adjoint`: for every tape, heap, tangent and seed,
`⟨rev tape h seed, dh⟩ = ⟨seed, tan tape h dh⟩`.
-/
namespace AV.Tape
variable {A : Type} [CommRing A]

abbrev Heap (A : Type) := Nat → A

structure Comp (A : Type) where
  dst  : Nat
  args : List Nat
  f    : List A → A
  df   : List A → List A → A
  pb   : List A → A → List A

inductive Instr (A : Type)
  | comp  (c : Comp A)
  | write (dst src : Nat)

def upd (h : Heap A) (c : Nat) (v : A) : Heap A := fun i => if i = c then v else h i

def scatter (bar : Heap A) : List Nat → List A → Heap A
  | a :: as, v :: vs => scatter (upd bar a (bar a + v)) as vs
  | _, _ => bar

def fwd1 (h : Heap A) : Instr A → Heap A
  | .comp c => upd h c.dst (c.f (c.args.map h))
  | .write d s => upd h d (h s)

def tan1 (h dh : Heap A) : Instr A → Heap A
  | .comp c => upd dh c.dst (c.df (c.args.map h) (c.args.map dh))
  | .write d s => upd dh d (dh s)

/-- reverse of one instruction given the heap *before* it executed -/
def rev1 (h : Heap A) (bar : Heap A) : Instr A → Heap A
  | .comp c => scatter bar c.args (c.pb (c.args.map h) (bar c.dst))
  | .write d s =>
    let saved := bar d
    let b1 := upd bar d 0
    upd b1 s (b1 s + saved)

def fwd : List (Instr A) → Heap A → Heap A
  | [], h => h
  | i :: is, h => fwd is (fwd1 h i)

def tan : List (Instr A) → Heap A → Heap A → Heap A
  | [], _, dh => dh
  | i :: is, h, dh => tan is (fwd1 h i) (tan1 h dh i)

/-- full reverse sweep: seeds are the bars at the end; returns the bars at the start -/
def rev : List (Instr A) → Heap A → Heap A → Heap A
  | [], _, bar => bar
  | i :: is, h, bar => rev1 h (rev is (fwd1 h i) bar) i

def pair (n : Nat) (u v : Heap A) : A := ∑ c ∈ Finset.range n, u c * v c

/-- local adjoint condition of a `Comp` (what each `C03.local_adjoint_*` lemma establishes) -/
def Comp.Adj (c : Comp A) : Prop :=
  ∀ (vals tans : List A) (yb : A), vals.length = c.args.length → tans.length = c.args.length →
    (c.pb vals yb).length = c.args.length ∧
    ((c.pb vals yb).zip tans).foldl (fun s p => s + p.1 * p.2) 0 = yb * c.df vals tans

/-- well-formedness of one instruction: `comp` writes a fresh cell (tangent/adjoint there is 0) -/
def Instr.WF (n : Nat) (dh : Heap A) : Instr A → Prop
  | .comp c => c.Adj ∧ c.dst < n ∧ (∀ a ∈ c.args, a < n ∧ a ≠ c.dst) ∧ dh c.dst = 0
  | .write d s => d < n ∧ s < n

theorem pair_upd_right {n : Nat} {u v : Heap A} {c : Nat} {x : A} (hc : c < n) :
    pair n u (upd v c x) = pair n u v + u c * (x - v c) := by
  unfold pair upd
  have : ∀ i ∈ Finset.range n, u i * (if i = c then x else v i) = u i * v i + (if i = c then u c * (x - v c) else 0) := by
    intro i _; by_cases h : i = c <;> simp [h]; ring
  rw [Finset.sum_congr rfl this, Finset.sum_add_distrib, Finset.sum_ite_eq' (Finset.range n) c]
  simp [hc]

theorem pair_comm (n : Nat) (u v : Heap A) : pair n u v = pair n v u :=
  Finset.sum_congr rfl fun _ _ => mul_comm _ _

theorem pair_upd_left {n : Nat} {u v : Heap A} {c : Nat} {x : A} (hc : c < n) :
    pair n (upd u c x) v = pair n u v + (x - u c) * v c := by
  rw [pair_comm, pair_upd_right hc, pair_comm, mul_comm]

theorem pair_unit_right {n c : Nat} (hc : c < n) (u : Heap A) : pair n u (fun i => if i = c then 1 else 0) = u c := by
  simp only [pair, mul_ite, mul_one, mul_zero, Finset.sum_ite_eq', Finset.mem_range, hc, if_true]

/-- the fold of `Comp.Adj` and `dotComp` is the dot product of the two lists -/
theorem foldl_pair (l1 l2 : List A) :
    (l1.zip l2).foldl (fun s p => s + p.1 * p.2) 0 = (List.zipWith (· * ·) l1 l2).sum := by
  rw [List.sum_eq_foldl, ← List.map_uncurry_zip_eq_zipWith, List.foldl_map]
  rfl

theorem dot_map_mul_left (yb : A) (l1 l2 : List A) :
    (List.zipWith (· * ·) (l1.map (yb * ·)) l2).sum = yb * (List.zipWith (· * ·) l1 l2).sum := by
  simp only [List.zipWith_map_left, mul_assoc, List.sum_zipWith_distrib_left]

theorem pair_scatter (n : Nat) (bar dh : Heap A) : ∀ (as : List Nat) (vs : List A),
    (∀ a ∈ as, a < n) → vs.length = as.length →
    pair n (scatter bar as vs) dh = pair n bar dh + (List.zipWith (· * ·) vs (as.map dh)).sum := by
  intro as
  induction as generalizing bar with
  | nil => intro vs _ _; cases vs <;> simp [scatter]
  | cons a as ih =>
    intro vs ha hl
    cases vs with
    | nil => simp at hl
    | cons v vs =>
      rw [scatter, ih _ vs (fun x hx => ha x (List.mem_cons_of_mem _ hx)) (by simpa using hl),
        pair_upd_left (ha a (List.mem_cons_self ..)), List.map_cons, List.zipWith_cons_cons, List.sum_cons]
      ring

/-- the reverse of an overwrite: clear the adjoint of `d`, then scatter what it held onto `s` (so `d = s` needs no case) -/
theorem rev1_write (h bar : Heap A) (d s : Nat) :
    rev1 h bar (.write d s) = scatter (upd bar d 0) [s] [bar d] := rfl

theorem step_adj (n : Nat) (h dh bar : Heap A) (i : Instr A) (hw : i.WF n dh) :
    pair n (rev1 h bar i) dh = pair n bar (tan1 h dh i) := by
  cases i with
  | comp c =>
    obtain ⟨hadj, hd, hargs, hz⟩ := hw
    simp only [rev1, tan1]
    have hA := hadj (c.args.map h) (c.args.map dh) (bar c.dst) (by simp) (by simp)
    rw [pair_scatter n bar dh c.args _ (fun a ha => (hargs a ha).1) hA.1, ← foldl_pair, hA.2, pair_upd_right hd, hz]
    ring
  | write d s =>
    obtain ⟨hd, hs⟩ := hw
    rw [rev1_write, pair_scatter n _ dh [s] _ (by simpa using hs) rfl, pair_upd_left hd, tan1, pair_upd_right hd]
    simp only [List.map_cons, List.map_nil, List.zipWith_cons_cons, List.zipWith_nil_right, List.sum_cons, List.sum_nil]
    ring

/-- well-formedness along the execution -/
def WF (n : Nat) : List (Instr A) → Heap A → Heap A → Prop
  | [], _, _ => True
  | i :: is, h, dh => i.WF n dh ∧ WF n is (fwd1 h i) (tan1 h dh i)

theorem tape_adjoint (n : Nat) : ∀ (is : List (Instr A)) (h dh bar : Heap A), WF n is h dh →
    pair n (rev is h bar) dh = pair n bar (tan is h dh) := by
  intro is
  induction is with
  | nil => intros; rfl
  | cons i is ih =>
    intro h dh bar hw
    simp only [rev, tan]
    rw [step_adj n h dh _ i hw.1, ih _ _ _ hw.2]

/-! ## the computations (each mirrors a `pb_*` formula; `A` is any commutative ring); the `Adj` lemma of a computation is in
`Props/C03.lean` (`local_adjoint_*`), its `Compat` lemma in `Proofs/TapeNatural.lean` -/

/-- unary operation whose tangent is multiplication by `g vals` (`g = f'(x)` in `A`) and whose pullback
is `xbar += ybar * g` — `_pb_exp` (`g = y`), `_pb_log` (`g = 1/x`), `_pb_sqrt` (`g = 1/(2y)`), `_pb_square`
(`g = 2x`), `_pb_reciprocal`, `_pb_sincos`, `_pb_tansec`, `_pb_pow_real`, the black/white family, … -/
def unaryComp (dst a : Nat) (f g : A → A) : Comp A where
  dst := dst
  args := [a]
  f := fun v => f (v.headD 0)
  df := fun v t => g (v.headD 0) * t.headD 0
  pb := fun v yb => [yb * g (v.headD 0)]

/-- `z = x + y`: `pb_add` -/
def addComp (dst a b : Nat) : Comp A where
  dst := dst
  args := [a, b]
  f := fun v => v.headD 0 + (v.tail.headD 0)
  df := fun _ t => t.headD 0 + (t.tail.headD 0)
  pb := fun _ yb => [yb, yb]

/-- `z = x - y`: `pb_sub` -/
def subComp (dst a b : Nat) : Comp A where
  dst := dst
  args := [a, b]
  f := fun v => v.headD 0 - (v.tail.headD 0)
  df := fun _ t => t.headD 0 - (t.tail.headD 0)
  pb := fun _ yb => [yb, -yb]

/-- `z = x * y`: `pb_mul` (`xbar += zbar*y`, `ybar += zbar*x`) -/
def mulComp (dst a b : Nat) : Comp A where
  dst := dst
  args := [a, b]
  f := fun v => v.headD 0 * (v.tail.headD 0)
  df := fun v t => t.headD 0 * (v.tail.headD 0) + v.headD 0 * (t.tail.headD 0)
  pb := fun v yb => [yb * (v.tail.headD 0), yb * v.headD 0]

/-- `z = x / y = x * inv y`: `pb_truediv` (`tmp = zbar/y; xbar += tmp; ybar -= tmp*z`).  The adjoint condition holds for any
function `inv`; that `inv` is the reciprocal (`y * inv y = 1`) is what makes `f` the quotient -/
def divComp (dst a b : Nat) (inv : A → A) : Comp A where
  dst := dst
  args := [a, b]
  f := fun v => v.headD 0 * inv (v.tail.headD 0)
  df := fun v t =>
    let x := v.headD 0; let y := v.tail.headD 0
    t.headD 0 * inv y - (x * inv y) * inv y * (t.tail.headD 0)
  pb := fun v yb =>
    let x := v.headD 0; let y := v.tail.headD 0
    let tmp := yb * inv y
    [tmp, -(tmp * (x * inv y))]

/-- reductions `y = Σ_i x_i` (`pb_sum`), any arity: every argument receives `ybar` -/
def sumComp (dst : Nat) (args : List Nat) : Comp A where
  dst := dst
  args := args
  f := fun v => v.sum
  df := fun _ t => t.sum
  pb := fun v yb => v.map fun _ => yb

/-- multiplication by a constant of the ring (constant operands, `x * c`, `c * x`, `dot` with a plain array) -/
def scaleComp (dst a : Nat) (c : A) : Comp A := unaryComp dst a (fun x => c * x) (fun _ => c)

/-- copies into fresh cells (`clone`, non-view `reshape`, `getitem` of a copy) -/
def copyComp (dst a : Nat) : Comp A := unaryComp dst a (fun x => x) (fun _ => 1)

/-- bilinear reductions `z = Σ_k x_k y_k` (`dot`, `trace` of a product, …) -/
def dotComp (dst : Nat) (xs ys : List Nat) : Comp A where
  dst := dst
  args := xs ++ ys
  f := fun v => ((v.take xs.length).zip (v.drop xs.length)).foldl (fun s p => s + p.1 * p.2) 0
  df := fun v t =>
    ((t.take xs.length).zip (v.drop xs.length)).foldl (fun s p => s + p.1 * p.2) 0
    + ((v.take xs.length).zip (t.drop xs.length)).foldl (fun s p => s + p.1 * p.2) 0
  pb := fun v yb => ((v.drop xs.length).map fun y => yb * y) ++ ((v.take xs.length).map fun x => yb * x)

/-- the local adjoint condition of a computation with two argument cells, stated on the two values and the two tangents -/
theorem Comp.adj_binary {c : Comp A} {a b : Nat} (hargs : c.args = [a, b])
    (h : ∀ x y s t yb, ∃ p q, c.pb [x, y] yb = [p, q] ∧ p * s + q * t = yb * c.df [x, y] [s, t]) : c.Adj := by
  intro vals tans yb hv ht
  rw [hargs] at hv ht ⊢
  obtain ⟨x, y, rfl⟩ := List.length_eq_two.mp hv
  obtain ⟨s, t, rfl⟩ := List.length_eq_two.mp ht
  obtain ⟨p, q, hpb, hpq⟩ := h x y s t yb
  rw [hpb, ← hpq]
  exact ⟨rfl, by simp⟩

end AV.Tape
