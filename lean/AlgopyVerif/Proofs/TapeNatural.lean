import AlgopyVerif.Proofs.Tape
import Mathlib.Algebra.Ring.Pi
/-!
# The forward and the reverse sweep commute with additive maps

Let `φ : A → B` be additive and let two tapes, over `A` and over `B`, have the same shape and compatible computations
(`φ (c.f vals) = c'.f (vals.map φ)`, `(c.pb vals yb).map φ = c'.pb (vals.map φ) (φ yb)`).  Then
`φ ∘ rev t h bar = rev t' (φ ∘ h) (φ ∘ bar)`.  With `φ` the evaluation at direction `p` on `Fin P → S` this is C11 for the
sweep (directions do not mix) and, on the `Fin (P * M)` replicated directions of `CGraph.jacobian`, C04's `jacobian_replicated_layout`;
with `φ` the truncation `S[t]/(t^D) → S[t]/(t^D')` it is C12 (the low-order adjoints do not depend on `D`).
-/
namespace AV.Tape
variable {A B : Type} [CommRing A] [CommRing B]

/-- no clause for `df`: the tangent sweep is not transported, only `fwd` and `rev` are -/
def Comp.Compat (φ : A → B) (c : Comp A) (c' : Comp B) : Prop :=
  c'.dst = c.dst ∧ c'.args = c.args ∧
  (∀ vals : List A, vals.length = c.args.length → φ (c.f vals) = c'.f (vals.map φ)) ∧
  (∀ (vals : List A) (yb : A), vals.length = c.args.length → (c.pb vals yb).map φ = c'.pb (vals.map φ) (φ yb))

inductive Instr.Compat (φ : A → B) : Instr A → Instr B → Prop
  | comp (c : Comp A) (c' : Comp B) : Comp.Compat φ c c' → Instr.Compat φ (.comp c) (.comp c')
  | write (d s : Nat) : Instr.Compat φ (.write d s) (.write d s)

omit [CommRing A] [CommRing B] in
theorem map_upd (φ : A → B) (h : Heap A) (c : Nat) (v : A) : φ ∘ upd h c v = upd (φ ∘ h) c (φ v) := by
  funext i; unfold upd; by_cases hi : i = c <;> simp [hi]

theorem map_scatter (φ : A → B) (hadd : ∀ x y, φ (x + y) = φ x + φ y) (bar : Heap A) :
    ∀ (as : List Nat) (vs : List A), φ ∘ scatter bar as vs = scatter (φ ∘ bar) as (vs.map φ) := by
  intro as
  induction as generalizing bar with
  | nil => intro vs; cases vs <;> simp [scatter]
  | cons a as ih =>
    intro vs
    cases vs with
    | nil => simp [scatter]
    | cons v vs =>
      simp only [scatter, List.map_cons]
      rw [ih, map_upd, hadd]
      rfl

omit [CommRing A] [CommRing B] in
theorem fwd1_natural (φ : A → B) (h : Heap A) {i : Instr A} {i' : Instr B} (hc : Instr.Compat φ i i') :
    φ ∘ fwd1 h i = fwd1 (φ ∘ h) i' := by
  cases hc with
  | comp c c' hcc =>
    obtain ⟨hd, ha, hf, _⟩ := hcc
    simp only [fwd1]
    rw [map_upd, hf _ (by simp), hd, ha, List.map_map]
  | write d s =>
    simp only [fwd1]
    rw [map_upd]; rfl

theorem rev1_natural (φ : A → B) (hadd : ∀ x y, φ (x + y) = φ x + φ y) (h bar : Heap A)
    {i : Instr A} {i' : Instr B} (hc : Instr.Compat φ i i') :
    φ ∘ rev1 h bar i = rev1 (φ ∘ h) (φ ∘ bar) i' := by
  cases hc with
  | comp c c' hcc =>
    obtain ⟨hd, ha, _, hp⟩ := hcc
    simp only [rev1]
    rw [map_scatter φ hadd, hp _ _ (by simp), hd, ha, List.map_map]
    rfl
  | write d s =>
    have h0 : φ 0 = 0 := by simpa using hadd 0 0
    rw [rev1_write, rev1_write, map_scatter φ hadd, map_upd, h0]
    rfl

omit [CommRing A] [CommRing B] in
theorem fwd_natural (φ : A → B) {t : List (Instr A)} {t' : List (Instr B)} (hc : List.Forall₂ (Instr.Compat φ) t t') :
    ∀ h : Heap A, φ ∘ fwd t h = fwd t' (φ ∘ h) := by
  induction hc with
  | nil => intro h; rfl
  | cons hi _ ih =>
    intro h
    simp only [fwd]
    rw [ih, fwd1_natural φ h hi]

theorem rev_natural (φ : A → B) (hadd : ∀ x y, φ (x + y) = φ x + φ y) {t : List (Instr A)} {t' : List (Instr B)}
    (hc : List.Forall₂ (Instr.Compat φ) t t') :
    ∀ h bar : Heap A, φ ∘ rev t h bar = rev t' (φ ∘ h) (φ ∘ bar) := by
  induction hc with
  | nil => intro h bar; rfl
  | cons hi _ ih =>
    intro h bar
    simp only [rev]
    rw [rev1_natural φ hadd _ _ hi, ih, fwd1_natural φ h hi]

/-! ## ring operations are compatible with every ring homomorphism -/

omit [CommRing A] [CommRing B] in
/-- compatibility of a computation with two argument cells, stated on the two values -/
theorem Comp.compat_binary {φ : A → B} {c : Comp A} {c' : Comp B} {a b : Nat} (hargs : c.args = [a, b])
    (hd : c'.dst = c.dst) (ha : c'.args = c.args) (hf : ∀ x y, φ (c.f [x, y]) = c'.f [φ x, φ y])
    (hp : ∀ x y yb, (c.pb [x, y] yb).map φ = c'.pb [φ x, φ y] (φ yb)) : Comp.Compat φ c c' := by
  refine ⟨hd, ha, fun vals hv => ?_, fun vals yb hv => ?_⟩
  · rw [hargs] at hv
    obtain ⟨x, y, rfl⟩ := List.length_eq_two.mp hv
    exact hf x y
  · rw [hargs] at hv
    obtain ⟨x, y, rfl⟩ := List.length_eq_two.mp hv
    exact hp x y yb

theorem mulComp_compat (φ : A →+* B) (dst a b : Nat) : Comp.Compat φ (mulComp dst a b) (mulComp dst a b) :=
  Comp.compat_binary rfl rfl rfl φ.map_mul fun x y yb =>
    congrArg₂ (fun p q => [p, q]) (φ.map_mul yb y) (φ.map_mul yb x)

theorem ring_ops_compat (φ : A →+* B) (dst a b : Nat) :
    Comp.Compat φ (addComp dst a b) (addComp dst a b) ∧ Comp.Compat φ (subComp dst a b) (subComp dst a b)
    ∧ Comp.Compat φ (mulComp dst a b) (mulComp dst a b) :=
  ⟨Comp.compat_binary rfl rfl rfl φ.map_add fun _ _ _ => rfl,
   Comp.compat_binary rfl rfl rfl φ.map_sub fun _ _ yb => congrArg ([φ yb, ·]) (φ.map_neg yb),
   mulComp_compat φ dst a b⟩

/-- a unary kernel with multiplier `g` (exp, log, sqrt, …) is compatible as soon as the kernel and its multiplier commute with
`φ` — for truncation this is what the kernel's `*_prefix` theorem says on lists, for a direction projection what its `mapS1` theorem
says on arrays; the passage from those representations to the ring `A` is argued (DESIGN §5), not formalised -/
theorem unaryComp_compat (φ : A →+* B) (dst a : Nat) (f g : A → A) (f' g' : B → B)
    (hf : ∀ x, φ (f x) = f' (φ x)) (hg : ∀ x, φ (g x) = g' (φ x)) :
    Comp.Compat φ (unaryComp dst a f g) (unaryComp dst a f' g') := by
  refine ⟨rfl, rfl, fun vals hv => ?_, fun vals yb hv => ?_⟩
  · obtain ⟨x, rfl⟩ := List.length_eq_one_iff.mp hv
    exact hf x
  · obtain ⟨x, rfl⟩ := List.length_eq_one_iff.mp hv
    simp only [unaryComp, List.headD, List.map, map_mul, hg]

theorem divComp_compat (φ : A →+* B) (dst a b : Nat) (inv : A → A) (inv' : B → B) (hi : ∀ x, φ (inv x) = inv' (φ x)) :
    Comp.Compat φ (divComp dst a b inv) (divComp dst a b inv') :=
  Comp.compat_binary rfl rfl rfl (fun x y => (φ.map_mul x (inv y)).trans (congrArg (φ x * ·) (hi y)))
    fun _ _ _ => by simp only [divComp, List.headD, List.tail, List.map, map_mul, map_neg, hi]

theorem sumComp_compat (φ : A →+* B) (dst : Nat) (args : List Nat) : Comp.Compat φ (sumComp dst args) (sumComp dst args) := by
  refine ⟨rfl, rfl, ?_, ?_⟩
  · intro vals _
    exact map_list_sum φ vals
  · intro vals yb _; simp [sumComp]

end AV.Tape
