import AlgopyVerif.Proofs.Jacobi
import Mathlib.Algebra.Polynomial.Taylor
import Mathlib.LinearAlgebra.Matrix.Charpoly.Coeff

/-!
# The division-free evaluation of `det` and the adjugate (`UTPM._det_adj`, algopy/utpm/utpm.py), every size

`UTPM.det` / `UTPM.pb_det` fall back to the Faddeev–LeVerrier recursion when the zeroth coefficient is singular:
`M = I, c = −tr A; for k = 2..N: M = A·M + c·I, c = −tr(A·M)/k; det A = (−1)^N c, adj A = (−1)^(N−1) M`.
`flStep` is that loop (`flStep A j` = the state after `j` passes), `flDet`, `flAdj` the returned values.

Proof, for every commutative ring `R` up to the last step: let `b_k` be the coefficient matrices of `adj(X·1 − A)` and `p_k` the
coefficients of the characteristic polynomial.
* `(X·1 − A)·adj(X·1 − A) = χ_A·1` gives `b_k = A b_{k+1} + p_{k+1}·1`, `A b_0 = −p_0·1` and `b_k = 0` for `k ≥ N`;
* `χ_A' = tr adj(X·1 − A)` — the coefficient of `Y` in Jacobi's formula without invertibility (`Proofs/Jacobi.lean`) for
  `det(X·1 − A + Y·1) = χ_A(X + Y)` over `R[X][Y]` — gives `tr b_k = (k+1) p_{k+1}`, hence `tr(A b_k) = (k − N) p_k`;
* so over a field of characteristic zero the recursion walks down these coefficients: after `j` passes
  `(M, c) = (b_{N−1−j}, p_{N−1−j})`, and `p_0 = (−1)^N det A`, `b_0 = (−1)^(N−1) adj A`.
-/
namespace AV.FL
open Matrix
variable {K : Type} [Field K] [CharZero K] {n : Type} [Fintype n] [DecidableEq n]

/-- `(M_k, c_k)` after `k` further steps of the recursion of `UTPM._det_adj` (k = 0: `M = I`, `c = -tr A`) -/
def flStep (A : Matrix n n K) : ℕ → Matrix n n K × K
  | 0 => (1, -trace A)
  | k + 1 =>
    let M' := A * (flStep A k).1 + (flStep A k).2 • (1 : Matrix n n K)
    (M', -trace (A * M') / ((k : K) + 2))

def flDet (A : Matrix n n K) : K := (-1) ^ Fintype.card n * (flStep A (Fintype.card n - 1)).2
def flAdj (A : Matrix n n K) : Matrix n n K := (-1 : K) ^ (Fintype.card n - 1) • (flStep A (Fintype.card n - 1)).1
end AV.FL

namespace AV.FLgen
open Matrix Polynomial
variable {R : Type} [CommRing R] {n : Type} [Fintype n] [DecidableEq n]

/-- the substitution `X ↦ Y + X`: `R[X] → R[X][Y]` -/
noncomputable def shiftHom : R[X] →+* R[X][X] :=
  (Polynomial.taylorAlgHom (X : R[X])).toRingHom.comp (Polynomial.mapRingHom (C : R →+* R[X]))

theorem shiftHom_apply (p : R[X]) : shiftHom p = taylor X (p.map C) := rfl

theorem shiftHom_coeff_one (p : R[X]) : (shiftHom p).coeff 1 = derivative p := by
  rw [shiftHom_apply, taylor_coeff_one, derivative_map, eval_map, eval₂_C_X]

theorem shiftHom_coeff_zero (p : R[X]) : (shiftHom p).coeff 0 = p := by
  rw [shiftHom_apply, taylor_coeff_zero, eval_map, eval₂_C_X]

/-- `χ_A(Y + X)` is the characteristic polynomial, in `Y`, of `A - X·1` over `R[X]` (`Matrix.charpoly_sub_scalar`) -/
theorem shiftHom_charpoly (A : Matrix n n R) :
    shiftHom A.charpoly = (C.mapMatrix (charmatrix A) + (X : R[X][X]) • (1 : Matrix n n R[X][X])).det := by
  have : C.mapMatrix (charmatrix A) + (X : R[X][X]) • (1 : Matrix n n R[X][X])
      = charmatrix (A.map C - scalar n (X : R[X])) := by
    simp only [charmatrix, map_sub, scalar_apply, smul_one_eq_diagonal, RingHom.mapMatrix_apply (M := A)]
    abel
  rw [this, ← charpoly, charpoly_sub_scalar, charpoly_map, shiftHom_apply, taylor_apply]

/-- coefficient 1 in `Y` of Jacobi's formula for `det(X·1 − A + Y·1) = χ_A(X + Y)` -/
theorem derivative_charpoly (A : Matrix n n R) :
    derivative A.charpoly = (adjugate (charmatrix A)).trace := by
  obtain ⟨c, hc⟩ := AV.Jacobi.det_tangent_adjugate ((C : R[X] →+* R[X][X]).mapMatrix (charmatrix A)) 1 (X : R[X][X])
  have htr : ((C : R[X] →+* R[X][X]).mapMatrix (adjugate (charmatrix A))).trace = C (adjugate (charmatrix A)).trace :=
    (AddMonoidHom.map_trace (C : R[X] →+* R[X][X]).toAddMonoidHom _).symm
  rw [← shiftHom_charpoly, ← RingHom.map_det, ← RingHom.map_adjugate, Matrix.mul_one, htr] at hc
  have h1 := congrArg (fun q => q.coeff 1) hc
  rwa [shiftHom_coeff_one, coeff_add, coeff_add, coeff_C_succ, coeff_mul_X, coeff_C_zero, coeff_mul_X_pow', if_neg (by norm_num),
    zero_add, add_zero] at h1

/-- coefficient matrices of `adj(X·1 − A)` -/
noncomputable def bco (A : Matrix n n R) (k : ℕ) : Matrix n n R := (matPolyEquiv (adjugate (charmatrix A))).coeff k

theorem charmatrix_mul_adj (A : Matrix n n R) :
    ((X : (Matrix n n R)[X]) - C A) * matPolyEquiv (adjugate (charmatrix A)) = A.charpoly.map (algebraMap R (Matrix n n R)) := by
  rw [← matPolyEquiv_charmatrix, ← map_mul, mul_adjugate, matPolyEquiv_smul_one, charpoly]

/-- `b_k = A b_{k+1} + p_{k+1} I` -/
theorem bco_rec (A : Matrix n n R) (k : ℕ) :
    bco A k = A * bco A (k + 1) + A.charpoly.coeff (k + 1) • (1 : Matrix n n R) := by
  have h := congrArg (fun q => q.coeff (k + 1)) (charmatrix_mul_adj A)
  simp only [sub_mul, coeff_sub, coeff_X_mul, coeff_C_mul, coeff_map] at h
  unfold bco
  rw [Algebra.algebraMap_eq_smul_one] at h
  rw [← h]; abel

/-- `A b_0 = −p_0 I` -/
theorem bco_zero (A : Matrix n n R) : A * bco A 0 = -(A.charpoly.coeff 0 • (1 : Matrix n n R)) := by
  have h := congrArg (fun q => q.coeff 0) (charmatrix_mul_adj A)
  simp only [sub_mul, coeff_sub, coeff_map, mul_coeff_zero, coeff_X_zero, zero_mul, zero_sub] at h
  unfold bco
  rw [Algebra.algebraMap_eq_smul_one] at h
  rw [← h]; simp

/-- `tr b_k = (k+1) p_{k+1}` -/
theorem trace_bco (A : Matrix n n R) (k : ℕ) :
    (bco A k).trace = A.charpoly.coeff (k + 1) * ((k : R) + 1) := by
  have h := congrArg (fun q => q.coeff k) (derivative_charpoly A)
  simp only [coeff_derivative] at h
  rw [h]
  unfold bco Matrix.trace
  simp only [Matrix.diag_apply, matPolyEquiv_coeff_apply, finsetSum_coeff]

theorem charpoly_coeff_card (A : Matrix n n R) : A.charpoly.coeff (Fintype.card n) = 1 := by
  rcases subsingleton_or_nontrivial R with h | h
  · exact Subsingleton.elim _ _
  · exact charpoly_natDegree_eq_dim A ▸ (charpoly_monic A).coeff_natDegree

theorem charpoly_coeff_gt (A : Matrix n n R) (k : ℕ) (hk : Fintype.card n < k) : A.charpoly.coeff k = 0 := by
  rcases subsingleton_or_nontrivial R with h | h
  · exact Subsingleton.elim _ _
  · exact coeff_eq_zero_of_natDegree_lt (by rwa [charpoly_natDegree_eq_dim])

/-- `b_k = 0` for `k ≥ N`, by induction on a bound `d` for how far `k` lies below the degree of `adj(X·1 − A)` -/
theorem bco_vanish (A : Matrix n n R) : ∀ (d k : ℕ), Fintype.card n ≤ k →
    (matPolyEquiv (adjugate (charmatrix A))).natDegree < k + d → bco A k = 0 := by
  intro d
  induction d with
  | zero =>
    intro k _ h
    exact coeff_eq_zero_of_natDegree_lt h
  | succ d ih =>
    intro k hk h
    rw [bco_rec, ih (k + 1) (Nat.le_succ_of_le hk) (by omega), charpoly_coeff_gt A (k + 1) (Nat.lt_succ_of_le hk),
      Matrix.mul_zero, zero_smul, add_zero]

theorem bco_card (A : Matrix n n R) : bco A (Fintype.card n) = 0 :=
  bco_vanish A ((matPolyEquiv (adjugate (charmatrix A))).natDegree + 1) _ le_rfl (by omega)

/-- `b_0 = (−1)^(N−1) adj A` -/
theorem bco_zero_eq (A : Matrix n n R) : bco A 0 = (-1 : R) ^ (Fintype.card n - 1) • adjugate A := by
  have h1 : bco A 0 = (adjugate (charmatrix A)).map (evalRingHom 0) := by
    ext i j
    simp [bco, matPolyEquiv_coeff_apply, coeff_zero_eq_eval_zero]
  have h2 : (charmatrix A).map (evalRingHom (0 : R)) = -A := by
    ext i j
    by_cases h : i = j <;> simp [h]
  rw [h1, ← RingHom.mapMatrix_apply, RingHom.map_adjugate, RingHom.mapMatrix_apply, h2]
  have : (-A) = (-1 : R) • A := by simp
  rw [this, adjugate_smul]

/-- `tr(A b_k) = (k − N) p_k` -/
theorem trace_mul_bco (A : Matrix n n R) (k : ℕ) :
    (A * bco A k).trace = ((k : R) - Fintype.card n) * A.charpoly.coeff k := by
  cases k with
  | zero => rw [bco_zero, Matrix.trace_neg, Matrix.trace_smul, Matrix.trace_one, smul_eq_mul]; push_cast; ring
  | succ k =>
    have h1 := congrArg Matrix.trace (bco_rec A k)
    rw [Matrix.trace_add, Matrix.trace_smul, Matrix.trace_one, trace_bco, smul_eq_mul] at h1
    push_cast
    linear_combination -h1

section field
variable {K : Type} [Field K] [CharZero K]
open AV.FL

/-- after `j` passes `(M, c) = (b_k, p_k)` with `k = N − 1 − j` -/
theorem flStep_eq (A : Matrix n n K) : ∀ j k, k + j + 1 = Fintype.card n →
    flStep A j = (bco A k, A.charpoly.coeff k) := by
  intro j
  induction j with
  | zero =>
    intro k hN
    have hb : bco A k = 1 := by
      have := bco_rec A k
      rwa [show k + 1 = Fintype.card n from hN, bco_card, charpoly_coeff_card, Matrix.mul_zero, zero_add, one_smul] at this
    have ht := trace_mul_bco A k
    rw [hb, Matrix.mul_one, ← hN, Nat.cast_succ, sub_add_cancel_left, neg_one_mul] at ht
    rw [flStep, hb, ht, neg_neg]
  | succ j ih =>
    intro k hN
    have hne : ((j : K) + 2) ≠ 0 := by exact_mod_cast (Nat.succ_ne_zero (j + 1) : j + 2 ≠ 0)
    have hk : (k : K) - ((k + (j + 1) + 1 : ℕ) : K) = -((j : K) + 2) := by push_cast; ring
    rw [flStep, ih (k + 1) (by omega), ← bco_rec, trace_mul_bco, ← hN, hk, neg_mul, neg_neg, mul_div_cancel_left₀ _ hne]

theorem fl_general [Nonempty n] (A : Matrix n n K) : flDet A = A.det ∧ flAdj A = A.adjugate := by
  have h := flStep_eq A (Fintype.card n - 1) 0 (by rw [zero_add, Nat.sub_add_cancel Fintype.card_pos])
  constructor
  · rw [flDet, h, det_eq_sign_charpoly_coeff]
  · rw [flAdj, h, bco_zero_eq, smul_smul, ← mul_pow, neg_mul_neg, one_mul, one_pow, one_smul]
end field

end AV.FLgen
