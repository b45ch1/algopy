import AlgopyVerif.Model.Series
import Mathlib.Algebra.BigOperators.Intervals
import Mathlib.Algebra.Field.Basic
import Mathlib.Algebra.CharZero.Defs
import Mathlib.Data.List.GetD
/-!
# `build`, `sumRange`, `co`: what every recurrence proof rests on

`build step n` lists `step (build step d)` for `d < n` (`build_eq_map_build`), and a sequence obeying the recurrence is
what `build` computes (`build_eq_map_range`).  The references `co (y.take d) k`, `k < d`, of an unfolded step to earlier
entries become `co y k` by `simp (disch := omega) only [co_take]`; the congruence lemma `sumRange_congr'` supplies the bounds on `k`.
-/
namespace AV

theorem getD_map_range {α} {n : Nat} {f : Nat → α} {j : Nat} (h : j < n) (d : α) :
    ((List.range n).map f).getD j d = f j := by
  rw [List.getD_eq_getElem?_getD]
  simp [h]

theorem take_map_range {α} (n m : Nat) (h : m ≤ n) (f : Nat → α) :
    ((List.range n).map f).take m = (List.range m).map f := by
  rw [← List.map_take, List.take_range, Nat.min_eq_left h]

theorem map_range_succ {α} (f : Nat → α) (k : Nat) :
    (List.range (k + 1)).map f = (List.range k).map f ++ [f k] := by
  rw [List.range_succ, List.map_append, List.map_singleton]

theorem build_eq_map_build {α} (step : List α → α) (n : Nat) :
    build step n = (List.range n).map fun d => step (build step d) := by
  induction n with
  | zero => rfl
  | succ n ih => rw [map_range_succ, ← ih]; rfl

theorem build_length {α} (step : List α → α) (n : Nat) : (build step n).length = n := by
  rw [build_eq_map_build, List.length_map, List.length_range]

theorem build_take {α} (step : List α → α) (n m : Nat) (h : m ≤ n) :
    (build step n).take m = build step m := by
  rw [build_eq_map_build, take_map_range n m h, ← build_eq_map_build]

theorem build_getD {α} (step : List α → α) (n d : Nat) (h : d < n) (dflt : α) :
    (build step n).getD d dflt = step (build step d) := by
  rw [build_eq_map_build, getD_map_range h]

theorem build_getD_prefix {α} (step : List α → α) (n d k : Nat) (hk : k < d) (hd : d ≤ n) (dflt : α) :
    (build step d).getD k dflt = (build step n).getD k dflt := by
  rw [build_getD _ _ _ hk, build_getD _ _ _ (hk.trans_le hd)]

theorem build_getD_take {α} (step : List α → α) {n d : Nat} (h : d < n) (dflt : α) :
    (build step n).getD d dflt = step ((build step n).take d) := by
  rw [build_getD _ _ _ h, build_take _ _ _ h.le]

theorem length_take_build {α} (step : List α → α) {n d : Nat} (h : d ≤ n) :
    ((build step n).take d).length = d := by
  rw [build_take _ _ _ h, build_length]

theorem build_eq_map_range {α} {step : List α → α} {f : Nat → α} {n : Nat}
    (h : ∀ d, d < n → f d = step ((List.range d).map f)) : build step n = (List.range n).map f := by
  induction n with
  | zero => rfl
  | succ n ih =>
    rw [build, ih fun d hd => h d (by omega), List.range_succ, List.map_append, ← h n (by omega)]
    rfl

/-- the kernels' steps have the form `let d := acc.length; if d = 0 then y0 else …`; `g` takes the list alone so that
unification finds it -/
theorem build_ite_eq_map_range {α} {y0 : α} {g : List α → α} {f : Nat → α} {n : Nat} (h0 : 0 < n → f 0 = y0)
    (hs : ∀ d, d + 1 < n → f (d + 1) = g ((List.range (d + 1)).map f)) :
    build (fun acc => if acc.length = 0 then y0 else g acc) n = (List.range n).map f :=
  build_eq_map_range fun d hd => by
    cases d with
    | zero => exact h0 hd
    | succ d => rw [List.length_map, List.length_range, if_neg (Nat.succ_ne_zero d)]; exact hs d hd

theorem build_congr {α} {s1 s2 : List α → α} {n : Nat}
    (h : ∀ acc, acc.length < n → s1 acc = s2 acc) : build s1 n = build s2 n := by
  rw [build_eq_map_build s2]
  exact build_eq_map_range fun d hd => by rw [← build_eq_map_build, h _ (by rwa [build_length])]

theorem build_congr_on {α} (s1 s2 : List α → α) (n : Nat)
    (h : ∀ d, d < n → s1 (build s1 d) = s2 (build s1 d)) : build s1 n = build s2 n := by
  rw [build_eq_map_build s1]
  exact (build_eq_map_range fun d hd => by rw [← build_eq_map_build]; exact h d hd).symm

/-- the lengths are written as the kernels have them, so that their prefix theorems are instances -/
theorem build_take_congr {α β} {s1 s2 : List α → α} (x : List β) {m : Nat} (h : m ≤ x.length)
    (hs : ∀ acc, acc.length < m → s1 acc = s2 acc) :
    (build s1 x.length).take m = build s2 (x.take m).length := by
  rw [List.length_take_of_le h, build_take _ _ _ h]
  exact build_congr hs

theorem pair_take {α β γ} (stp : List γ → List (α × β) → α × β) (x : List γ) (m : Nat) (h : m ≤ x.length)
    (hs : ∀ acc : List (α × β), acc.length < m → stp x acc = stp (x.take m) acc) :
    (((build (stp x) x.length).unzip.1).take m, ((build (stp x) x.length).unzip.2).take m)
      = (build (stp (x.take m)) (x.take m).length).unzip := by
  rw [← build_take_congr x h hs]
  simp [List.unzip_eq_map, List.map_take]

theorem getD_take {α} (l : List α) {m k : Nat} (h : k < m) (dflt : α) :
    (l.take m).getD k dflt = l.getD k dflt := by
  rw [List.getD_eq_getElem?_getD, List.getD_eq_getElem?_getD, List.getElem?_take, if_pos h]

theorem map_range_congr {α} {n : Nat} {f g : Nat → α} (h : ∀ d, d < n → f d = g d) :
    (List.range n).map f = (List.range n).map g := by
  apply List.map_congr_left
  intro d hd
  exact h d (List.mem_range.mp hd)

theorem map_range_take_congr {α β} {f g : Nat → α} (x : List β) {m : Nat} (h : m ≤ x.length)
    (hs : ∀ d, d < m → f d = g d) :
    ((List.range x.length).map f).take m = (List.range (x.take m).length).map g := by
  rw [List.length_take_of_le h, take_map_range _ _ h]
  exact map_range_congr hs

theorem foldl_range_eq {σ : Type} (f : σ → Nat → σ) (s : Nat → σ) (n : Nat) (h : ∀ k, k < n → f (s k) k = s (k + 1)) :
    (List.range n).foldl f (s 0) = s n := by
  induction n with
  | zero => rfl
  | succ n ih =>
    rw [List.range_succ, List.foldl_append, ih fun k hk => h k (by omega)]
    exact h n (by omega)

theorem foldl_range_inv {σ : Type} (f : σ → Nat → σ) (P : Nat → σ → Prop) {s0 : σ} (h0 : P 0 s0)
    (hs : ∀ k s, P k s → P (k + 1) (f s k)) (n : Nat) : P n ((List.range n).foldl f s0) := by
  induction n with
  | zero => exact h0
  | succ n ih =>
    rw [List.range_succ, List.foldl_append]
    exact hs n _ ih

theorem ite_eq_apply {α β} [DecidableEq α] (f : α → β) (a j : α) : (if j = a then f a else f j) = f j := by
  split <;> simp [*]

theorem fact_eq (n : Nat) : fact n = n.factorial := by
  induction n with
  | zero => rfl
  | succ n ih => rw [fact, ih, Nat.factorial_succ]

theorem nat_eq {K : Type} [NatCast K] (n : Nat) : (nat n : K) = (n : K) := rfl

theorem sumRange_eq {K} [AddCommMonoid K] (lo hi : Nat) (f : Nat → K) :
    sumRange lo hi f = ∑ i ∈ Finset.range (hi - lo), f (lo + i) :=
  foldl_range_eq _ (fun k => ∑ i ∈ Finset.range k, f (lo + i)) _ fun k _ => (Finset.sum_range_succ _ k).symm

/-- the form `simp` uses to go under a `sumRange`: the bounds may be rewritten, and the summand is rewritten with
`lo ≤ k`, `k < hi` at hand (so that `omega` can discharge side conditions on `k`) -/
@[congr] theorem sumRange_congr' {K} [AddCommMonoid K] {lo lo' hi hi' : Nat} {f g : Nat → K}
    (hlo : lo = lo') (hhi : hi = hi') (h : ∀ k, lo' ≤ k → k < hi' → f k = g k) :
    sumRange lo hi f = sumRange lo' hi' g := by
  subst hlo hhi
  rw [sumRange_eq, sumRange_eq]
  apply Finset.sum_congr rfl
  intro i hi'
  have := Finset.mem_range.mp hi'
  exact h _ (by omega) (by omega)

theorem mul_sumRange {K} [NonUnitalNonAssocSemiring K] (c : K) (lo hi : Nat) (f : Nat → K) :
    c * sumRange lo hi f = sumRange lo hi fun k => c * f k := by
  rw [sumRange_eq, sumRange_eq]
  exact map_sum (AddMonoidHom.mulLeft c) _ _

theorem succ_sub_one_add (d i : Nat) : d + 1 - (1 + i) = d - i := by omega

section
variable {K : Type} [Field K] [CharZero K]

/-- a step `y_{d+1} = (Σ_{k=1}^{d+1} f k) / (d+1)` multiplied through by `d+1`, the sum reindexed from 0 -/
theorem succ_mul_sumRange_div (f : Nat → K) (d : Nat) :
    ((d + 1 : Nat) : K) * (sumRange 1 (d + 1 + 1) f / ((d + 1 : Nat) : K)) = ∑ i ∈ Finset.range (d + 1), f (1 + i) := by
  have hne : ((d + 1 : Nat) : K) ≠ 0 := by exact_mod_cast Nat.succ_ne_zero d
  rw [mul_div_cancel₀ _ hne, sumRange_eq, Nat.add_sub_cancel]
end

section
variable {K : Type} [Zero K]

theorem co_map_range {n : Nat} {f : Nat → K} {d : Nat} (h : d < n) :
    co ((List.range n).map f) d = f d := getD_map_range h 0

theorem co_constS (c : K) (n d : Nat) (h : d < n) : co (constS c n) d = if d = 0 then c else 0 :=
  co_map_range h

theorem co_of_ge (x : List K) (d : Nat) (h : x.length ≤ d) : co x d = 0 := by
  unfold co
  rw [List.getD_eq_getElem?_getD, List.getElem?_eq_none h]
  rfl

theorem co_take (x : List K) (m d : Nat) (h : d < m) : co (x.take m) d = co x d := getD_take x h 0

theorem co_drop_one (x : List K) (k : Nat) : co (x.drop 1) k = co x (k + 1) := by
  unfold co
  rw [List.getD_eq_getElem?_getD, List.getD_eq_getElem?_getD, List.getElem?_drop, Nat.add_comm]

theorem list_ext_co {x y : List K} (hl : x.length = y.length) (h : ∀ d, d < x.length → co x d = co y d) :
    x = y := by
  apply List.ext_getElem hl
  intro i h1 h2
  have := h i h1
  unfold co at this
  rw [List.getD_eq_getElem _ _ h1, List.getD_eq_getElem _ _ h2] at this
  exact this

theorem eq_map_range_of_co {x : List K} {n : Nat} (f : Nat → K) (hn : x.length = n) (h : ∀ d, d < n → co x d = f d) :
    x = (List.range n).map f :=
  list_ext_co (by simp [hn]) fun d hd => by rw [h d (hn ▸ hd), co_map_range (hn ▸ hd)]

theorem co_map (f : K → K) (x : List K) (k : Nat) (h : k < x.length) : co (x.map f) k = f (co x k) := by
  unfold co
  rw [List.getD_eq_getElem?_getD, List.getD_eq_getElem?_getD, List.getElem?_map, List.getElem?_eq_getElem h]
  rfl

theorem co_build_zero (step : List K → K) {n : Nat} (h : 0 < n) : co (build step n) 0 = step [] :=
  build_getD step n 0 h 0

theorem co_build_take (step : List K → K) {n d : Nat} (h : d < n) :
    co (build step n) d = step ((build step n).take d) := build_getD_take step h 0

theorem co_unzip_fst (l : List (K × K)) (d : Nat) : co l.unzip.1 d = (l.getD d (0,0)).1 := by
  unfold co
  simp only [List.unzip_eq_map, List.getD_eq_getElem?_getD, List.getElem?_map]
  cases l[d]? <;> rfl

theorem co_unzip_snd (l : List (K × K)) (d : Nat) : co l.unzip.2 d = (l.getD d (0,0)).2 := by
  unfold co
  simp only [List.unzip_eq_map, List.getD_eq_getElem?_getD, List.getElem?_map]
  cases l[d]? <;> rfl

theorem co_unzip_build_zero (stp : List (K × K) → K × K) {n : Nat} (h : 0 < n) :
    co (build stp n).unzip.1 0 = (stp []).1 ∧ co (build stp n).unzip.2 0 = (stp []).2 := by
  rw [co_unzip_fst, co_unzip_snd, build_getD _ n 0 h]
  exact ⟨rfl, rfl⟩
end

attribute [simp] build_length

section
variable {K : Type}

@[simp] theorem constS_length [Zero K] (c : K) (n : Nat) : (constS c n).length = n := by simp [constS]
@[simp] theorem mulS_length [Add K] [Mul K] [Zero K] (x y : List K) : (mulS x y).length = x.length := by simp [mulS]
@[simp] theorem addS_length [Add K] [Zero K] (x y : List K) : (addS x y).length = x.length := by simp [addS]
@[simp] theorem subS_length [Sub K] [Zero K] (x y : List K) : (subS x y).length = x.length := by simp [subS]
@[simp] theorem negS_length [Neg K] (x : List K) : (negS x).length = x.length := by simp [negS]
@[simp] theorem scaleS_length [Mul K] (c : K) (x : List K) : (scaleS c x).length = x.length := by simp [scaleS]
@[simp] theorem divS_length [Add K] [Mul K] [Sub K] [Div K] [Zero K] [One K] (x y : List K) :
    (divS x y).length = x.length := by simp [divS]
@[simp] theorem recipS_length [Add K] [Mul K] [Sub K] [Div K] [Zero K] [One K] (x : List K) :
    (recipS x).length = x.length := by simp [recipS]
@[simp] theorem squareS_length [Add K] [Mul K] [Zero K] [NatCast K] (x : List K) :
    (squareS x).length = x.length := by simp [squareS]
@[simp] theorem sqrtS_length [Add K] [Mul K] [Sub K] [Div K] [Zero K] [One K] [NatCast K] (y0 : K) (x : List K) :
    (sqrtS y0 x).length = x.length := by simp [sqrtS]
@[simp] theorem expS_length [Add K] [Mul K] [Div K] [Zero K] [NatCast K] (y0 : K) (x : List K) :
    (expS y0 x).length = x.length := by simp [expS]
@[simp] theorem logS_length [Add K] [Mul K] [Sub K] [Div K] [Zero K] [NatCast K] (y0 : K) (x : List K) :
    (logS y0 x).length = x.length := by simp [logS]
@[simp] theorem powRealS_length [Add K] [Mul K] [Sub K] [Div K] [Zero K] [NatCast K] (r y0 : K) (x : List K) :
    (powRealS r y0 x).length = x.length := by simp [powRealS]
@[simp] theorem plusConstS_length [Add K] [Zero K] (x : List K) (c : K) : (plusConstS x c).length = x.length := by
  simp [plusConstS]
@[simp] theorem blackWhiteS_length [Add K] [Mul K] [Div K] [Zero K] [NatCast K] (f0 : K) (fp x : List K) :
    (blackWhiteS f0 fp x).length = x.length := by simp [blackWhiteS]

@[simp] theorem sincosS_length [Add K] [Mul K] [Neg K] [Div K] [Zero K] [NatCast K] (s0 c0 : K) (x : List K) :
    (sincosS s0 c0 x).1.length = x.length ∧ (sincosS s0 c0 x).2.length = x.length := by simp [sincosS]
@[simp] theorem sinhcoshS_length [Add K] [Mul K] [Div K] [Zero K] [NatCast K] (s0 c0 : K) (x : List K) :
    (sinhcoshS s0 c0 x).1.length = x.length ∧ (sinhcoshS s0 c0 x).2.length = x.length := by simp [sinhcoshS]
@[simp] theorem tansec2S_length [Add K] [Mul K] [Div K] [Zero K] [NatCast K] (y0 z0 : K) (x : List K) :
    (tansec2S y0 z0 x).1.length = x.length ∧ (tansec2S y0 z0 x).2.length = x.length := by simp [tansec2S]
@[simp] theorem tanhsech2S_length [Add K] [Mul K] [Neg K] [Div K] [Zero K] [NatCast K] (y0 z0 : K) (x : List K) :
    (tanhsech2S y0 z0 x).1.length = x.length ∧ (tanhsech2S y0 z0 x).2.length = x.length := by simp [tanhsech2S]
@[simp] theorem arcsinS_length [Add K] [Mul K] [Sub K] [Neg K] [Div K] [Zero K] [NatCast K] (y0 z0 : K) (x : List K) :
    (arcsinS y0 z0 x).1.length = x.length ∧ (arcsinS y0 z0 x).2.length = x.length := by simp [arcsinS]
@[simp] theorem arctanS_length [Add K] [Mul K] [Sub K] [Div K] [Zero K] [One K] [NatCast K] (y0 : K) (x : List K) :
    (arctanS y0 x).1.length = x.length ∧ (arctanS y0 x).2.length = x.length := by simp [arctanS]
end

end AV
