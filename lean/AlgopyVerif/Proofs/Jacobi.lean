import Mathlib.LinearAlgebra.Matrix.Adjugate
import Mathlib.LinearAlgebra.Matrix.Trace
/-!
# Jacobi's formula without invertibility (any commutative ring)

`det (X + r dX) = det X + tr(adj(X) dX) r + O(r²)`: the tangent of `det` is `tr(adj(X) dX)` at *every* matrix, also a
singular one (`Xbar = ybar · adj(X)ᵀ` is its adjoint: `C03.matrix_det_adjoint_every_matrix`).  `UTPM.det` / `pb_det`
(algopy/utpm/utpm.py) evaluate determinant and adjugate division-free when the zeroth coefficient is singular (the LU recursion
needs `U_0⁻¹`); `S` is instantiated with `ℝ[t]/(t^D)`.
-/

namespace AV.Jacobi
open Matrix Finset Equiv
variable {S : Type} [CommRing S] {n : Type} [Fintype n] [DecidableEq n]

omit [Fintype n] in
/-- first-order expansion of a finite product -/
theorem prod_add_mul (s : Finset n) (a b : n → S) (r : S) :
    ∃ c : S, ∏ i ∈ s, (a i + r * b i)
      = ∏ i ∈ s, a i + r * ∑ j ∈ s, b j * ∏ i ∈ s.erase j, a i + c * r ^ 2 := by
  induction s using Finset.induction_on with
  | empty => exact ⟨0, by simp⟩
  | insert k s hk ih =>
    obtain ⟨c, hc⟩ := ih
    have h1 : (insert k s).erase k = s := erase_insert hk
    have h2 : ∀ j ∈ s, ∏ i ∈ (insert k s).erase j, a i = a k * ∏ i ∈ s.erase j, a i := by
      intro j hj
      have hne : k ≠ j := by rintro rfl; exact hk hj
      have : (insert k s).erase j = insert k (s.erase j) := erase_insert_of_ne hne
      rw [this, prod_insert (fun h => hk (mem_of_mem_erase h))]
    have h3 : ∑ j ∈ s, b j * ∏ i ∈ (insert k s).erase j, a i
        = a k * ∑ j ∈ s, b j * ∏ i ∈ s.erase j, a i := by
      rw [mul_sum]
      refine sum_congr rfl (fun j hj => ?_)
      rw [h2 j hj]; ring
    refine ⟨a k * c + b k * (∑ j ∈ s, b j * ∏ i ∈ s.erase j, a i) + r * b k * c, ?_⟩
    rw [prod_insert hk, hc, prod_insert hk, sum_insert hk, h1, h3]
    ring

theorem det_updateCol_leibniz (X : Matrix n n S) (j : n) (b : n → S) :
    (X.updateCol j b).det = ∑ σ : Perm n, ((Perm.sign σ : ℤ) : S) * (b (σ j) * ∏ i ∈ univ.erase j, X (σ i) i) := by
  rw [det_apply']
  refine sum_congr rfl (fun σ _ => ?_)
  congr 1
  rw [← mul_prod_erase univ _ (mem_univ j), updateCol_self]
  congr 1
  refine prod_congr rfl (fun i hi => ?_)
  rw [updateCol_ne (ne_of_mem_erase hi)]

theorem det_tangent_adjugate (X dX : Matrix n n S) (r : S) :
    ∃ c : S, (X + r • dX).det = X.det + (X.adjugate * dX).trace * r + c * r ^ 2 := by
  -- per permutation `σ`, the product `∏ᵢ (X + r dX) (σ i) i` to first order in `r`
  choose c hc using fun σ : Perm n => prod_add_mul univ (fun i => X (σ i) i) (fun i => dX (σ i) i) r
  refine ⟨∑ σ : Perm n, ((Perm.sign σ : ℤ) : S) * c σ, ?_⟩
  -- Cramer's rule: `tr(adj X · dX) = Σ_j det X[column j := column j of dX]`
  have htr : (X.adjugate * dX).trace = ∑ j, (X.updateCol j (fun k => dX k j)).det := by
    refine sum_congr rfl (fun j _ => ?_)
    rw [diag_apply, ← cramer_apply, cramer_eq_adjugate_mulVec, mul_apply]
    rfl -- entry `j` of `adj X *ᵥ b` is `Σ_k (adj X) j k * b k` by definition of `mulVec`
  -- Leibniz on every determinant; then the two sides agree permutation by permutation
  rw [htr, det_apply', det_apply']
  simp_rw [det_updateCol_leibniz]
  rw [sum_comm, sum_mul, sum_mul, ← sum_add_distrib, ← sum_add_distrib]
  refine sum_congr rfl (fun σ _ => ?_)
  have := hc σ
  simp only [Matrix.add_apply, Matrix.smul_apply, smul_eq_mul] at this ⊢
  rw [this, ← mul_sum]
  ring

/-- for an invertible matrix the adjugate is `det X · X⁻¹`: the formula `ybar · det X · (X⁻¹)ᵀ` of the LU path of `pb_det` -/
theorem adjugate_eq_det_smul_inv (X Y : Matrix n n S) (hXY : X * Y = 1) : X.adjugate = X.det • Y := by
  calc X.adjugate = X.adjugate * (X * Y) := by rw [hXY, Matrix.mul_one]
    _ = (X.adjugate * X) * Y := by rw [Matrix.mul_assoc]
    _ = X.det • Y := by rw [Matrix.adjugate_mul, Matrix.smul_mul, Matrix.one_mul]

end AV.Jacobi
