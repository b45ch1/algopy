import AlgopyVerif.Proofs.Kernels
/-!
# Composite kernels: the black/white family (`expm1`, `log1p`, `logit`, `expit`, `erf`, `erfi`)

`_black_f_white_fprime(f, fprime_data, x_data)` integrates `y' = f'(x) x'` coefficient-wise, where
`fprime_data` was produced by other kernels: it is the pattern `Y' = X'·W` with `W` any germ whose jet
`fprime_data` is.  Each method is then the chain rule for its function and the closure of the kernels that
produce `fprime_data`.
-/
open Polynomial Filter Topology
open scoped ContDiff

namespace AV

theorem JetOf.blackWhite {x fp : List ℝ} {X W Y : ℝ → ℝ} (hx : JetOf x X) (hw : JetOf fp W)
    (hl : fp.length = x.length) (hY : Smooth0 Y) (hode : deriv Y =ᶠ[𝓝 0] deriv X * W) :
    JetOf (blackWhiteS (Y 0) fp x) Y := by
  refine .of_eq_map_range hY (n := x.length) ?_
  rw [blackWhiteS]
  refine map_range_congr fun d hd => ?_
  cases d with
  | zero => rw [if_pos rfl, tc_zero]
  | succ m =>
    rw [if_neg (Nat.succ_ne_zero m)]
    simp (disch := omega) only [hx.coeff, hw.coeff]
    refine (succ_mul_cancel m ?_).symm
    rw [tc_of_deriv_eq_mul hx.smooth hw.smooth hode, nat_eq, mul_div_cancel₀ _ (by exact_mod_cast Nat.succ_ne_zero m),
      sumRange_eq, Nat.sub_zero]
    exact Finset.sum_congr rfl fun c _ => by rw [Nat.zero_add, Nat.add_sub_cancel, nat_eq, Nat.add_comm c 1]; ring

theorem JetOf.expm1 {x : List ℝ} {X : ℝ → ℝ} (hx : JetOf x X) :
    JetOf (expm1S (Real.exp (X 0)) (Real.exp (X 0) - 1) x) (fun t => Real.exp (X t) - 1) :=
  JetOf.blackWhite hx hx.exp (by simp) (hx.exp.smooth.sub contDiffAt_const)
    (deriv_comp_of_hasDerivAt (f := fun y => Real.exp y - 1) hx.smooth
      (.of_forall fun y => (Real.hasDerivAt_exp y).sub_const 1))

theorem JetOf.log1p {x : List ℝ} {X : ℝ → ℝ} (hx : JetOf x X) (h0 : X 0 + 1 ≠ 0) :
    JetOf (log1pS (Real.log (X 0 + 1)) x) (fun t => Real.log (X t + 1)) :=
  JetOf.blackWhite hx ((hx.plusConst 1).recip h0) (by simp)
    (ContDiffAt.log (hx.plusConst 1).smooth h0)
    (deriv_comp_of_hasDerivAt (f := fun y => Real.log (y + 1)) hx.smooth
      ((((continuous_id.add continuous_const).continuousAt (x := X 0)).eventually_ne h0).mono fun y hy =>
        (((hasDerivAt_id y).add_const 1).log hy).congr_deriv (one_div _)))

/-- `logit x = log x - log (1 - x)`, `logit' = 1 / (x - x²)` -/
theorem JetOf.logit {x : List ℝ} {X : ℝ → ℝ} (hx : JetOf x X) (h0 : X 0 ≠ 0) (h1 : 1 - X 0 ≠ 0) :
    JetOf (logitS (Real.log (X 0) - Real.log (1 - X 0)) x) (fun t => Real.log (X t) - Real.log (1 - X t)) := by
  have hW := (hx.sub hx.square (by simp)).recip (X := X - X * X) (by
    rw [show (X - X * X) 0 = X 0 * (1 - X 0) by simp only [Pi.sub_apply, Pi.mul_apply]; ring]
    exact mul_ne_zero h0 h1)
  refine JetOf.blackWhite hx hW (by simp)
    ((ContDiffAt.log hx.smooth h0).sub (ContDiffAt.log (contDiffAt_const.sub hx.smooth) h1))
    (deriv_comp_of_hasDerivAt (f := fun y => Real.log y - Real.log (1 - y)) (f' := fun y => (y - y * y)⁻¹)
      hx.smooth ?_)
  filter_upwards [eventually_ne_nhds h0,
    ((continuous_const.sub continuous_id).continuousAt (x := X 0)).eventually_ne h1] with y hy0 hy1
  have hy1 : 1 - y ≠ 0 := hy1
  refine (((hasDerivAt_id y).log hy0).sub (((hasDerivAt_id y).const_sub 1).log hy1)).congr_deriv ?_
  simp only [id]
  field_simp
  ring

/-- `expit x = 1 / (1 + exp (-x))`; the code uses `b = 1/(exp x + 1)`, `f' = b - b²` -/
theorem JetOf.expit {x : List ℝ} {X : ℝ → ℝ} (hx : JetOf x X) :
    JetOf (expitS (Real.exp (X 0)) ((1 + Real.exp (-(X 0)))⁻¹) x) (fun t => (1 + Real.exp (-(X t)))⁻¹) := by
  have hpos : ∀ y : ℝ, Real.exp y + 1 ≠ 0 := fun y => by positivity
  have hpos' : ∀ y : ℝ, 1 + Real.exp (-y) ≠ 0 := fun y => by positivity
  have hB := (hx.exp.plusConst 1).recip (hpos (X 0))
  refine JetOf.blackWhite hx (hB.sub hB.square (by simp)) (by simp)
    (ContDiffAt.inv (contDiffAt_const.add ((Real.contDiff_exp.contDiffAt).comp 0 hx.smooth.neg)) (hpos' (X 0)))
    (deriv_comp_of_hasDerivAt (f := fun y => (1 + Real.exp (-y))⁻¹)
      (f' := fun y => (Real.exp y + 1)⁻¹ - (Real.exp y + 1)⁻¹ * (Real.exp y + 1)⁻¹) hx.smooth (.of_forall fun y => ?_))
  refine ((((hasDerivAt_id y).neg.exp).const_add 1).inv (hpos' y)).congr_deriv ?_
  simp only [Pi.neg_apply, id, Real.exp_neg]
  field_simp
  ring

/-- for any antiderivative `E` of `c · exp(∓y²)` (Mathlib has no `erf`): the leaf `f0 = E(x₀)` is SciPy's value, `c = 2/√π` -/
theorem JetOf.erf {x : List ℝ} {X : ℝ → ℝ} (hx : JetOf x X) (c : ℝ) (E : ℝ → ℝ)
    (hE : ∀ y, HasDerivAt E (c * Real.exp (-(y * y))) y) (hEs : ContDiffAt ℝ ∞ E (X 0)) :
    JetOf (erfS c (Real.exp (-(X 0 * X 0))) (E (X 0)) x) (fun t => E (X t)) :=
  JetOf.blackWhite hx (hx.square.neg.exp.scale c) (by simp) (smooth0_comp hx.smooth hEs)
    (deriv_comp_of_hasDerivAt hx.smooth (.of_forall hE))

theorem JetOf.erfi {x : List ℝ} {X : ℝ → ℝ} (hx : JetOf x X) (c : ℝ) (E : ℝ → ℝ)
    (hE : ∀ y, HasDerivAt E (c * Real.exp (y * y)) y) (hEs : ContDiffAt ℝ ∞ E (X 0)) :
    JetOf (erfiS c (Real.exp (X 0 * X 0)) (E (X 0)) x) (fun t => E (X t)) :=
  JetOf.blackWhite hx (hx.square.exp.scale c) (by simp) (smooth0_comp hx.smooth hEs)
    (deriv_comp_of_hasDerivAt hx.smooth (.of_forall hE))

end AV
