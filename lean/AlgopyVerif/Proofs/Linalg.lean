import AlgopyVerif.Model.Linalg
import AlgopyVerif.Proofs.PowerSeries
import Mathlib.Data.Matrix.Mul
/-!
# Matrix Taylor kernels solve their defining equations, in any (non-commutative) ring

One recursion carries the file: `solveMod`, the loop of `_solve` (`Model/Linalg.lean`, `algorithms.py`) with the right-hand side and
the solution in a left module `M` over the ring `R` of the matrix coefficients, `y_d = A_0^{-1} • (b_d - Σ_{k=1}^{d} A_k • y_{d-k})`.
With `M = R` it is the model's `solveM` by definition (what the driver runs); with `M` the `n × k` matrices over the `n × n` matrices
it is `solveRect`.  `_inv` is `_solve` with the constant right-hand side `1`; that its right inverse is a left inverse too goes
through `R⟦X⟧`, where the Cauchy product is associative.  `_dot` is the series product `mulS` of `Model/Series.lean`, by definition.
-/
open Finset
namespace AV

theorem coR_eq_co {R : Type} [Zero R] (x : List R) (k : Nat) : coR x k = co x k := rfl

theorem dotM_eq_mulS {R : Type} [Add R] [Mul R] [Zero R] (x y : List R) : dotM x y = mulS x y := rfl

section
variable {R M : Type} [Ring R] [AddCommGroup M] [Module R M]

def coMd (x : List M) (k : Nat) : M := x.getD k 0

def solveStepMod (a : List R) (a0inv : R) (b : List M) (acc : List M) : M :=
  let d := acc.length
  a0inv • (coMd b d - sumRange 1 (d+1) fun k => coR a k • coMd acc (d-k))
def solveMod (a : List R) (a0inv : R) (b : List M) : List M := build (solveStepMod a a0inv b) b.length

theorem step_of_conv {a : ℕ → R} {X : ℕ → M} {a0inv : R} {b : M} (h0' : a0inv * a 0 = 1) {d : ℕ}
    (hX : ∑ k ∈ range (d+1), a k • X (d-k) = b) :
    X d = a0inv • (b - ∑ k ∈ range d, a (k+1) • X (d - (k+1))) := by
  rw [← hX, sum_range_succ', Nat.sub_zero, add_sub_cancel_left, smul_smul, h0', one_smul]

theorem solveMod_co (a : List R) (a0inv : R) (b : List M) (d : Nat) (h : d < b.length) :
    coMd (solveMod a a0inv b) d
      = a0inv • (coMd b d - ∑ k ∈ range d, coR a (k+1) • coMd (solveMod a a0inv b) (d - (k+1))) := by
  rw [solveMod, coMd, build_getD _ _ _ h, solveStepMod]
  simp only [build_length, sumRange_eq, Nat.add_sub_cancel, Nat.add_comm 1]
  congr 2
  refine sum_congr rfl fun k hk => ?_
  have := mem_range.mp hk
  rw [coMd, coMd, build_getD_prefix _ b.length d _ (Nat.sub_lt_of_pos_le k.succ_pos this) h.le]

/-- `A(t) • X(t) = B(t)` modulo `t^D` for a right-hand side in any left module, given `A_0 · solve(A_0, ·) = id` -/
theorem solveMod_spec (a : List R) (a0inv : R) (b : List M) (h0 : coR a 0 * a0inv = 1) (d : Nat) (h : d < b.length) :
    ∑ k ∈ range (d+1), coR a k • coMd (solveMod a a0inv b) (d-k) = coMd b d := by
  rw [sum_range_succ', Nat.sub_zero, solveMod_co a a0inv b d h, smul_smul, h0, one_smul]
  abel

theorem solveMod_unique {a : List R} {a0inv : R} (h0' : a0inv * coR a 0 = 1) {b z w : List M} {D : ℕ}
    (hz : ∀ d, d < D → ∑ k ∈ range (d+1), coR a k • coMd z (d-k) = coMd b d)
    (hw : ∀ d, d < D → ∑ k ∈ range (d+1), coR a k • coMd w (d-k) = coMd b d) (d : ℕ) (hd : d < D) :
    coMd z d = coMd w d := by
  induction d using Nat.strong_induction_on with
  | _ d ih =>
    rw [step_of_conv h0' (hz d hd), step_of_conv h0' (hw d hd)]
    congr 2
    refine sum_congr rfl fun k hk => ?_
    have := mem_range.mp hk
    rw [ih (d - (k+1)) (Nat.sub_lt_of_pos_le k.succ_pos this) ((Nat.sub_le _ _).trans_lt hd)]

theorem solveMod_take (a : List R) (a0inv : R) {b : List M} {m : Nat} (h : m ≤ b.length) :
    (solveMod a a0inv b).take m = solveMod (a.take m) a0inv (b.take m) := by
  refine build_take_congr b h fun acc ha => ?_
  simp only [solveStepMod, coMd, coR]
  rw [getD_take b ha]
  congr 2
  refine sumRange_congr' rfl rfl fun k _ hk => ?_
  rw [getD_take a ((Nat.lt_succ_iff.mp hk).trans_lt ha)]

theorem solveMod_self (a : List R) (a0inv : R) (b : List R) : solveMod a a0inv b = solveM a a0inv b := rfl
end

section
variable {K : Type} [Ring K] {n k : ℕ}

/-- a definition, not an instance: for `k = n` it would stand beside the ring's own module structure on itself -/
@[reducible] def rectModule : Module (Matrix (Fin n) (Fin n) K) (Matrix (Fin n) (Fin k) K) where
  smul A B := A * B
  one_smul B := Matrix.one_mul B
  mul_smul A A' B := Matrix.mul_assoc A A' B
  smul_zero A := Matrix.mul_zero A
  smul_add A B C := Matrix.mul_add A B C
  add_smul A A' B := Matrix.add_mul A A' B
  zero_smul B := Matrix.zero_mul B

/-- `_solve` with an `n × k` right-hand side: the module recursion for left multiplication of matrices -/
def solveRect (A : List (Matrix (Fin n) (Fin n) K)) (A0inv : Matrix (Fin n) (Fin n) K) (B : List (Matrix (Fin n) (Fin k) K)) :
    List (Matrix (Fin n) (Fin k) K) :=
  letI := rectModule (K := K) (n := n) (k := k)
  solveMod A A0inv B

theorem solveRect_length (A : List (Matrix (Fin n) (Fin n) K)) (A0inv : Matrix (Fin n) (Fin n) K) (B : List (Matrix (Fin n) (Fin k) K)) :
    (solveRect A A0inv B).length = B.length :=
  build_length _ _
end

section
variable {R : Type} [Ring R]

theorem invM_length (x : List R) (y0 : R) : (invM x y0).length = x.length := by simp [invM, build_length]

theorem invM_zero (x : List R) (y0 : R) (h : 0 < x.length) : coR (invM x y0) 0 = y0 := by
  rw [invM, coR, build_getD _ _ _ h]
  simp [build, invStepM]

/-- `_inv` is `_solve` with the constant right-hand side `1`: the step of `_inv` is that of `_solve` once `y_0` is the leaf value -/
theorem invM_eq_solveConstBM (x : List R) (y0 : R) : invM x y0 = solveConstBM x y0 1 := by
  unfold invM solveConstBM solveM
  rw [List.length_map, List.length_range]
  refine build_congr_on _ _ _ fun d hd => ?_
  rw [invStepM, solveStepM, build_length, coR_eq_co (List.map _ _), co_map_range hd]
  rcases d with _ | d
  · simp [sumRange]
  · rw [if_neg (Nat.succ_ne_zero d), if_neg (Nat.succ_ne_zero d), coR, build_getD _ _ 0 (Nat.succ_pos d)]
    -- the first entry `invStepM` builds is the leaf `y0`, and `-y0 * Σ = y0 * (0 - Σ)`
    rw [show invStepM x y0 (build (invStepM x y0) 0) = y0 from rfl, zero_sub, mul_neg, neg_mul]

end

open PowerSeries in
/-- modulo `X^D`: if `q` is a right inverse of `p` and has a right inverse `r` itself, then `q` is a left inverse of `p`
(`q p ≡ (q p)(q r) = q (p q) r ≡ q r ≡ 1`; the Cauchy product in `R⟦X⟧` is associative) -/
theorem left_inverse_of_right {R : Type} [Semiring R] (p q r : R⟦X⟧) (D : ℕ)
    (hpq : ∀ d < D, coeff d (p * q) = coeff d (1 : R⟦X⟧)) (hqr : ∀ d < D, coeff d (q * r) = coeff d (1 : R⟦X⟧))
    (d : ℕ) (hd : d < D) : coeff d (q * p) = coeff d (1 : R⟦X⟧) :=
  calc coeff d (q * p)
      = coeff d (q * p * (q * r)) := by rw [coeff_mul_congr _ _ _ 1 D (fun _ _ => rfl) hqr d hd, mul_one]
    _ = coeff d (q * (p * q) * r) := by simp only [mul_assoc]
    _ = coeff d (q * r) := by
        rw [coeff_mul_congr (q * (p * q)) (q * 1) _ _ D (coeff_mul_congr _ _ _ _ _ (fun _ _ => rfl) hpq) (fun _ _ => rfl) d hd,
          mul_one]
    _ = coeff d 1 := hqr d hd
end AV
