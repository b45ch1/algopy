import Mathlib.RingTheory.PowerSeries.Basic
import Mathlib.LinearAlgebra.Matrix.NonsingularInverse
/-!
# Wide QR (`UTPM._qr` with `M < N`, algorithms.py): `A = [A1 A2]`, `(Q, R1) = qr(A1)` (square), `R2 = Qᵀ A2`

`R2` is the *polynomial* product `Q(t)ᵀ A2(t)` (`_dot`), so `Q(t) R2(t) = A2(t)` needs `Q(t) Q(t)ᵀ = 1` as polynomials
modulo `t^D`, which follows from `Q(t)ᵀ Q(t) = 1` (the orthogonality theorem of the square step) because square matrices over
the commutative ring `K⟦X⟧ / (X^D)` with a left inverse have a right inverse.  The proof moves the coefficient sequences into
matrices over that ring, where rectangular products are associative, and reads the coefficients back.
-/
open PowerSeries Finset

namespace AV.Factor
variable {K : Type} [Field K] {m n l : Type}

noncomputable def serM (F : ℕ → Matrix m n K) : Matrix m n K⟦X⟧ := Matrix.of fun i j => PowerSeries.mk fun d => F d i j

theorem coeff_serM (F : ℕ → Matrix m n K) (d : ℕ) (i : m) (j : n) : coeff d (serM F i j) = F d i j := by
  simp [serM, coeff_mk]

theorem serM_one [DecidableEq n] : (1 : Matrix n n K⟦X⟧) = serM fun d => if d = 0 then 1 else 0 := by
  ext i j d
  rw [coeff_serM]
  by_cases h : d = 0 <;> by_cases hij : i = j <;> simp [h, hij, Matrix.one_apply, coeff_one]

theorem serM_mul [Fintype l] (F : ℕ → Matrix m l K) (G : ℕ → Matrix l n K) :
    serM F * serM G = serM fun d => ∑ k ∈ range (d + 1), F k * G (d - k) := by
  ext i j d
  rw [coeff_serM, Matrix.mul_apply, map_sum, Matrix.sum_apply]
  simp only [coeff_mul, Finset.Nat.sum_antidiagonal_eq_sum_range_succ_mk, Matrix.mul_apply, coeff_serM]
  exact Finset.sum_comm

theorem serM_map_mk_eq_iff (D : ℕ) (F G : ℕ → Matrix m n K) :
    (serM F).map (Ideal.Quotient.mk (Ideal.span {(X : K⟦X⟧) ^ D})) = (serM G).map (Ideal.Quotient.mk _)
      ↔ ∀ d, d < D → F d = G d := by
  simp only [← Matrix.ext_iff, Matrix.map_apply, Ideal.Quotient.eq, Ideal.mem_span_singleton, X_pow_dvd_iff, map_sub,
    coeff_serM, sub_eq_zero]
  exact ⟨fun h d hd i j => h i j d hd, fun h i j d hd => h d hd i j⟩

/-- A left inverse `P(t)` of a square matrix polynomial `Q(t)` modulo `t^D` cancels from the other side too: `R = P A` gives
`Q R = A` modulo `t^D`. -/
theorem cauchy_left_inv_cancel [Fintype n] [DecidableEq n] [Fintype l] (P Q : ℕ → Matrix n n K) (A R : ℕ → Matrix n l K)
    (D : ℕ) (hPQ : ∀ d, d < D → ∑ k ∈ range (d + 1), P k * Q (d - k) = if d = 0 then 1 else 0)
    (hR : ∀ d, d < D → R d = ∑ k ∈ range (d + 1), P k * A (d - k)) (d : ℕ) (hd : d < D) :
    ∑ k ∈ range (d + 1), Q k * R (d - k) = A d := by
  -- over `K⟦X⟧ / (X^D)`: `P Q = 1` and `R = P A`, hence `Q R = (Q P) A = A`
  have h1 := (serM_map_mk_eq_iff D _ _).mpr hPQ
  have h2 := (serM_map_mk_eq_iff D R _).mpr hR
  rw [← serM_mul, Matrix.map_mul] at h1 h2
  rw [← serM_one, Matrix.map_one _ (map_zero _) (map_one _)] at h1
  refine (serM_map_mk_eq_iff D (fun d => ∑ k ∈ range (d + 1), Q k * R (d - k)) A).mp ?_ d hd
  rw [← serM_mul, Matrix.map_mul, h2, ← Matrix.mul_assoc, mul_eq_one_comm.mp h1, Matrix.one_mul]

end AV.Factor
