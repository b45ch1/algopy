import AlgopyVerif.Proofs.Recurrence
import Mathlib.Analysis.Calculus.IteratedDeriv.Lemmas
import Mathlib.Analysis.Calculus.Deriv.Polynomial
import Mathlib.Analysis.Calculus.ContDiff.Polynomial
import Mathlib.Algebra.BigOperators.Field
/-!
# The analytic bridge: Taylor coefficients at 0 of smooth germs

`tc f n = f⁽ⁿ⁾(0) / n!` is a map of differential rings from smooth germs to sequences (`tc_deriv`, Leibniz `tc_mul_at`,
germ invariance `tc_congr`).  A germ identity `Y' = X'·W` or `Y'·W = R` therefore becomes the convolution identity between
the Taylor sequences, which is the step equation of the corresponding kernel: by `build_eq_map_range` the kernel computes
the Taylor sequence.
-/
open Polynomial Filter Topology
open scoped ContDiff

namespace AV

noncomputable def tc (f : ℝ → ℝ) (n : ℕ) : ℝ := iteratedDeriv n f 0 / (n.factorial : ℝ)

def Smooth0 (f : ℝ → ℝ) : Prop := ContDiffAt ℝ ∞ f 0

theorem tc_zero (f : ℝ → ℝ) : tc f 0 = f 0 := by simp [tc]

noncomputable def tcAt (f : ℝ → ℝ) (a : ℝ) (d : ℕ) : ℝ := iteratedDeriv d f a / (d.factorial : ℝ)

theorem tcAt_succ (f : ℝ → ℝ) (a : ℝ) (e : ℕ) : tcAt f a (e + 1) * ((e + 1 : ℕ) : ℝ) = tcAt (deriv f) a e := by
  unfold tcAt
  rw [iteratedDeriv_succ', Nat.factorial_succ, Nat.cast_mul, div_mul_eq_mul_div, mul_comm ((e + 1 : ℕ) : ℝ),
    mul_div_mul_right _ _ (Nat.cast_ne_zero.mpr (Nat.succ_ne_zero e))]

theorem tc_deriv (f : ℝ → ℝ) (n : ℕ) : tc (deriv f) n = ((n + 1 : ℕ) : ℝ) * tc f (n + 1) :=
  (tcAt_succ f 0 n).symm.trans (mul_comm _ _)

theorem tc_congr {f g : ℝ → ℝ} (h : f =ᶠ[𝓝 0] g) (n : ℕ) : tc f n = tc g n := by
  unfold tc
  rw [h.iteratedDeriv_eq n]

theorem contDiffAt_deriv_of {f : ℝ → ℝ} {a : ℝ} (hf : ContDiffAt ℝ ∞ f a) : ContDiffAt ℝ ∞ (deriv f) a :=
  ContDiffAt.derivWithin hf (by simp)

theorem Smooth0.deriv {f : ℝ → ℝ} (hf : Smooth0 f) : Smooth0 (deriv f) := contDiffAt_deriv_of hf

theorem Smooth0.neg {f : ℝ → ℝ} (hf : Smooth0 f) : Smooth0 (-f) := ContDiffAt.neg hf

theorem smooth0_comp {f X : ℝ → ℝ} (hX : Smooth0 X) (hf : ContDiffAt ℝ ∞ f (X 0)) :
    Smooth0 (fun t => f (X t)) := hf.comp 0 hX

theorem eventually_hasDerivAt {f : ℝ → ℝ} {a : ℝ} (hf : ContDiffAt ℝ ∞ f a) :
    ∀ᶠ y in 𝓝 a, HasDerivAt f (deriv f y) y := by
  have h : ∀ᶠ y in 𝓝 a, ContDiffAt ℝ 1 f y := (contDiffAt_infty.mp hf _).eventually (by simp)
  filter_upwards [h] with y hy
  exact (hy.differentiableAt (by simp)).hasDerivAt

/-- the chain rule for a germ, with the derivative of the outer function given -/
theorem deriv_comp_of_hasDerivAt {f f' X : ℝ → ℝ} (hX : Smooth0 X)
    (hf : ∀ᶠ y in 𝓝 (X 0), HasDerivAt f (f' y) y) :
    deriv (fun t => f (X t)) =ᶠ[𝓝 0] deriv X * fun t => f' (X t) := by
  filter_upwards [eventually_hasDerivAt hX, hX.continuousAt.eventually hf] with t hX' hf'
  exact ((hf'.comp t hX').deriv).trans (mul_comm _ _)

theorem deriv_comp_eventually {f X : ℝ → ℝ} (hX : Smooth0 X) (hf : ContDiffAt ℝ ∞ f (X 0)) :
    deriv (fun t => f (X t)) =ᶠ[𝓝 0] deriv X * fun t => deriv f (X t) :=
  deriv_comp_of_hasDerivAt hX (eventually_hasDerivAt hf)

theorem deriv_mul_self_of_smooth0 {Y : ℝ → ℝ} (hY : Smooth0 Y) :
    deriv (fun t => Y t * Y t) =ᶠ[𝓝 0] deriv Y * fun t => 2 * Y t :=
  deriv_comp_of_hasDerivAt (f := fun y => y * y) hY
    (.of_forall fun y => ((hasDerivAt_id y).mul (hasDerivAt_id y)).congr_deriv (by simp; ring))

theorem tc_mul_at {f g : ℝ → ℝ} (hf : Smooth0 f) (hg : Smooth0 g) (n : ℕ) :
    tc (f * g) n = ∑ i ∈ Finset.range (n + 1), tc f i * tc g (n - i) := by
  unfold tc
  rw [iteratedDeriv_mul (contDiffAt_infty.mp hf _) (contDiffAt_infty.mp hg _),
    Finset.sum_div]
  apply Finset.sum_congr rfl
  intro i hi
  have hi' : i ≤ n := Nat.lt_succ_iff.mp (Finset.mem_range.mp hi)
  have hc : (n.choose i : ℝ) * (i.factorial : ℝ) * ((n - i).factorial : ℝ) = (n.factorial : ℝ) := by
    exact_mod_cast Nat.choose_mul_factorial_mul_factorial hi'
  have hC : (n.choose i : ℝ) ≠ 0 := Nat.cast_ne_zero.mpr (Nat.choose_pos hi').ne'
  rw [← hc, mul_assoc, mul_assoc, mul_div_mul_left _ _ hC, div_mul_div_comm]

theorem tc_poly (p : ℝ[X]) (n : ℕ) : tc (fun t => p.eval t) n = p.coeff n := by
  -- `deriv` of the function is `derivative` of the polynomial, hence so are their iterates
  have h : Function.Semiconj (fun (q : ℝ[X]) t => q.eval t) derivative deriv := fun q =>
    funext fun _ => q.deriv.symm
  rw [tc, iteratedDeriv_eq_iterate, ← h.iterate_right n p]
  show (derivative^[n] p).eval 0 / _ = _
  rw [← coeff_zero_eq_eval_zero, coeff_iterate_derivative, Nat.zero_add, Nat.descFactorial_self, nsmul_eq_mul,
    mul_div_cancel_left₀ _ (Nat.cast_ne_zero.mpr n.factorial_ne_zero)]

theorem contDiffAt_poly (p : ℝ[X]) (a : ℝ) : ContDiffAt ℝ ∞ (fun t => p.eval t) a := by
  have : ContDiff ℝ ∞ (fun t => p.eval t) := by simpa using p.contDiff_aeval (𝕜 := ℝ) ∞
  exact this.contDiffAt

theorem tc_const (c : ℝ) (n : ℕ) : tc (fun _ => c) n = if n = 0 then c else 0 := by
  have : (fun _ : ℝ => c) = fun t => (C c : ℝ[X]).eval t := by ext t; simp
  rw [this, tc_poly, coeff_C]

theorem tc_neg (f : ℝ → ℝ) (n : ℕ) : tc (-f) n = - tc f n := by
  unfold tc
  rw [iteratedDeriv_neg]
  simp [neg_div]

theorem tc_const_mul (c : ℝ) (f : ℝ → ℝ) (n : ℕ) : tc (fun t => c * f t) n = c * tc f n := by
  unfold tc
  have : (fun t => c * f t) = c • f := by ext t; simp
  rw [this, iteratedDeriv_const_smul_field]
  simp [mul_div_assoc]

theorem tc_add {f g : ℝ → ℝ} (hf : Smooth0 f) (hg : Smooth0 g) (n : ℕ) : tc (f + g) n = tc f n + tc g n := by
  unfold tc
  rw [iteratedDeriv_add (contDiffAt_infty.mp hf _) (contDiffAt_infty.mp hg _), add_div]

theorem tc_sub {f g : ℝ → ℝ} (hf : Smooth0 f) (hg : Smooth0 g) (n : ℕ) : tc (f - g) n = tc f n - tc g n := by
  unfold tc
  rw [iteratedDeriv_sub (contDiffAt_infty.mp hf _) (contDiffAt_infty.mp hg _), sub_div]

/-! ## a differential identity between germs is a convolution identity between their Taylor sequences

The sums are written in the index convention of the kernels (`Σ_{k=1}^{d+1} k x_k w_{d+1-k}` with `k = 1 + i`). -/

theorem tc_deriv_mul {X W : ℝ → ℝ} (hX : Smooth0 X) (hW : Smooth0 W) (d : ℕ) :
    tc (deriv X * W) d = ∑ i ∈ Finset.range (d + 1), ((1 + i : ℕ) : ℝ) * tc X (1 + i) * tc W (d - i) := by
  rw [tc_mul_at hX.deriv hW]
  exact Finset.sum_congr rfl fun i _ => by rw [tc_deriv, Nat.add_comm i 1]

theorem tc_of_deriv_eq_mul {X W Y : ℝ → ℝ} (hX : Smooth0 X) (hW : Smooth0 W)
    (h : deriv Y =ᶠ[𝓝 0] deriv X * W) (d : ℕ) :
    ((d + 1 : ℕ) : ℝ) * tc Y (d + 1)
      = ∑ i ∈ Finset.range (d + 1), ((1 + i : ℕ) : ℝ) * tc X (1 + i) * tc W (d - i) := by
  rw [← tc_deriv, tc_congr h, tc_deriv_mul hX hW]

/-- the term with `Y_{d+1}` is the one with `W_0` -/
theorem tc_of_deriv_mul_eq {Y W R : ℝ → ℝ} (hY : Smooth0 Y) (hW : Smooth0 W)
    (h : deriv Y * W =ᶠ[𝓝 0] R) (d : ℕ) :
    tc W 0 * (((d + 1 : ℕ) : ℝ) * tc Y (d + 1))
      = tc R d - ∑ j ∈ Finset.range d, ((1 + j : ℕ) : ℝ) * tc Y (1 + j) * tc W (d - j) := by
  rw [← tc_congr h, tc_deriv_mul hY hW, Finset.sum_range_succ, Nat.sub_self, Nat.add_comm 1 d]
  ring

theorem succ_mul_cancel (d : ℕ) {a b : ℝ} (h : ((d + 1 : ℕ) : ℝ) * a = ((d + 1 : ℕ) : ℝ) * b) : a = b :=
  mul_left_cancel₀ (by exact_mod_cast Nat.succ_ne_zero d) h

/-- `Y' = X'·W` in the notation of the kernels: `Y_d = (Σ_{k=1}^{d} k X_k W_{d-k}) / d` -/
theorem tc_succ_of_deriv_eq_mul {X W Y : ℝ → ℝ} (hX : Smooth0 X) (hW : Smooth0 W)
    (h : deriv Y =ᶠ[𝓝 0] deriv X * W) (d : ℕ) :
    tc Y (d + 1) = (sumRange 1 (d + 1 + 1) fun k => nat k * tc X k * tc W (d + 1 - k)) / nat (d + 1) := by
  refine succ_mul_cancel d ?_
  rw [tc_of_deriv_eq_mul hX hW h]
  simp only [nat_eq, succ_mul_sumRange_div, succ_sub_one_add]

/-- `Y'·W = R` in the notation of the kernels: `Y_d = (R_{d-1} − Σ_{k=1}^{d-1} k Y_k W_{d-k}) / (W_0 d)` -/
theorem tc_succ_of_deriv_mul_eq {Y W R : ℝ → ℝ} (hY : Smooth0 Y) (hW : Smooth0 W) (h0 : tc W 0 ≠ 0)
    (h : deriv Y * W =ᶠ[𝓝 0] R) (d : ℕ) :
    tc Y (d + 1) = (tc R d - sumRange 1 (d + 1) fun k => nat k * tc Y k * tc W (d + 1 - k)) / (tc W 0 * nat (d + 1)) := by
  have hne : tc W 0 * nat (d + 1) ≠ 0 := mul_ne_zero h0 (Nat.cast_ne_zero.mpr d.succ_ne_zero)
  rw [eq_div_iff hne, mul_comm, mul_assoc, nat_eq, tc_of_deriv_mul_eq hY hW h, sumRange_eq, Nat.add_sub_cancel]
  simp only [succ_sub_one_add, nat_eq]

/-- the input curve `x(t) = Σ x_k t^k` -/
noncomputable def polyOf (x : List ℝ) : ℝ[X] := ∑ i ∈ Finset.range x.length, C (x.getD i 0) * X ^ i

theorem polyOf_coeff (x : List ℝ) (k : ℕ) : (polyOf x).coeff k = co x k := by
  rw [polyOf, finsetSum_coeff]
  simp only [coeff_C_mul_X_pow, Finset.sum_ite_eq, Finset.mem_range]
  split
  · rfl
  · exact (co_of_ge x k (by omega)).symm

noncomputable def curve (x : List ℝ) : ℝ → ℝ := fun t => (polyOf x).eval t

theorem curve_zero (x : List ℝ) : curve x 0 = co x 0 := by
  unfold curve
  rw [← coeff_zero_eq_eval_zero, polyOf_coeff]

theorem smooth0_curve (x : List ℝ) : Smooth0 (curve x) := contDiffAt_poly _ 0

theorem tc_curve (x : List ℝ) (n : ℕ) : tc (curve x) n = co x n := by
  unfold curve; rw [tc_poly, polyOf_coeff]

/-- of a constant added to the curve only order 0 is seen (the scalar and plain-array operands of C02) -/
theorem tc_curve_add_const (xs : List ℝ) (r : ℝ) (d : ℕ) :
    tc (fun t => curve xs t + r) d = if d = 0 then co xs d + r else co xs d := by
  rw [show (fun t => curve xs t + r) = curve xs + fun _ => r from rfl,
    tc_add (smooth0_curve _) contDiffAt_const, tc_curve, tc_const]
  split <;> simp

theorem tc_curve_sub_const (xs : List ℝ) (r : ℝ) (d : ℕ) :
    tc (fun t => curve xs t - r) d = if d = 0 then co xs d - r else co xs d := by
  simpa [sub_eq_add_neg] using tc_curve_add_const xs (-r) d

end AV
