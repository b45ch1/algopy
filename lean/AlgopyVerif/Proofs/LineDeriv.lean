import AlgopyVerif.Proofs.Taylor
import AlgopyVerif.Proofs.Drivers
import Mathlib.Analysis.Calculus.FDeriv.Symmetric
/-!
# Taylor coefficients along a line: `c₁(v) = f'(x) v`, `c₂(v) = ½ f''(x)(v, v)`

For `f : E → ℝ` twice continuously differentiable at `x`, the first two Taylor coefficients of
`t ↦ f (x + t v)` are the gradient and Hessian forms — the program-level fact behind the forward-mode
drivers (`extract_jacobian`, `extract_jac_vec`, `extract_hessian`, `extract_hess_vec`).
-/
open Filter Topology

namespace AV
section
variable {E : Type*} [NormedAddCommGroup E] [NormedSpace ℝ E]

def line (x v : E) (t : ℝ) : E := x + t • v

theorem line_hasDerivAt (x v : E) (t : ℝ) : HasDerivAt (line x v) v t := by
  have h := ((hasDerivAt_id t).smul_const v).const_add x
  simp only [id, one_smul] at h
  exact h

theorem line_zero (x v : E) : line x v 0 = x := by simp [line]

theorem line_tendsto (x v : E) : Tendsto (line x v) (𝓝 0) (𝓝 x) := by
  have := (line_hasDerivAt x v 0).continuousAt.tendsto
  rwa [line_zero] at this

theorem hasDerivAt_comp_line {g : E → ℝ} {g' : E →L[ℝ] ℝ} {x v : E} {t : ℝ} (hg : HasFDerivAt g g' (line x v t)) :
    HasDerivAt (fun t => g (line x v t)) (g' v) t :=
  hg.comp_hasDerivAt t (line_hasDerivAt x v t)

/-- the directional derivative `y ↦ f'(y) w` of a `C²` function is differentiable, with derivative `v ↦ f''(x)(v, w)` -/
theorem hasFDerivAt_fderiv_apply (f : E → ℝ) (x w : E) (hf : ContDiffAt ℝ 2 f x) :
    HasFDerivAt (fun y => fderiv ℝ f y w) ((fderiv ℝ (fderiv ℝ f) x).flip w) x :=
  ((hf.fderiv_right (m := 1) (by norm_num)).differentiableAt (by norm_num)).hasFDerivAt.clm_apply (hasFDerivAt_const w x)
    |>.congr_fderiv (by ext v; simp)

theorem tc_line_one (f : E → ℝ) (x v : E) (hf : DifferentiableAt ℝ f x) :
    tc (fun t => f (line x v t)) 1 = fderiv ℝ f x v := by
  rw [← line_zero x v] at hf
  rw [tc, iteratedDeriv_one, (hasDerivAt_comp_line hf.hasFDerivAt).deriv, line_zero]; simp

theorem tc_fderiv_line_one (f : E → ℝ) (x v w : E) (hf : ContDiffAt ℝ 2 f x) :
    tc (fun t => fderiv ℝ f (line x v t) w) 1 = fderiv ℝ (fderiv ℝ f) x v w := by
  have hd := hasFDerivAt_fderiv_apply f x w hf
  exact (tc_line_one _ x v hd.differentiableAt).trans (congrArg (· v) hd.fderiv)

theorem tc_line_two (f : E → ℝ) (x v : E) (hf : ContDiffAt ℝ 2 f x) :
    tc (fun t => f (line x v t)) 2 = fderiv ℝ (fderiv ℝ f) x v v / 2 := by
  -- near `0` the first derivative is `t ↦ f'(x + t v) v`, whose first coefficient is known
  have hd1 : deriv (fun t => f (line x v t)) =ᶠ[𝓝 0] fun t => fderiv ℝ f (line x v t) v := by
    filter_upwards [(line_tendsto x v).eventually (hf.eventually (by simp))] with t ht
    exact (hasDerivAt_comp_line (ht.differentiableAt (by norm_num)).hasFDerivAt).deriv
  rw [← tc_fderiv_line_one f x v v hf, ← tc_congr hd1, tc_deriv]
  norm_num

end

section
variable {N : ℕ}

/-- the gradient entries `∂f/∂x_n` -/
noncomputable def gradAt (f : (Fin N → ℝ) → ℝ) (x : Fin N → ℝ) (n : Fin N) : ℝ :=
  fderiv ℝ f x (Pi.single n 1)

/-- the Hessian entries `∂²f/∂x_n∂x_m` -/
noncomputable def hessAt (f : (Fin N → ℝ) → ℝ) (x : Fin N → ℝ) (n m : Fin N) : ℝ :=
  fderiv ℝ (fderiv ℝ f) x (Pi.single n 1) (Pi.single m 1)

theorem clm_eq_sum (L : (Fin N → ℝ) →L[ℝ] ℝ) (v : Fin N → ℝ) : L v = ∑ i, L (Pi.single i 1) * v i := by
  conv_lhs => rw [pi_eq_sum_univ' v, map_sum L]
  exact Finset.sum_congr rfl fun i _ => by rw [L.map_smul, smul_eq_mul, mul_comm]

theorem fderiv_eq_grad (f : (Fin N → ℝ) → ℝ) (x v : Fin N → ℝ) :
    fderiv ℝ f x v = ∑ i, gradAt f x i * v i := clm_eq_sum _ v

theorem hess_row (f : (Fin N → ℝ) → ℝ) (x w : Fin N → ℝ) (i : Fin N) :
    fderiv ℝ (fderiv ℝ f) x (Pi.single i 1) w = ∑ j, hessAt f x i j * w j := clm_eq_sum _ w

theorem snd_eq_bil (f : (Fin N → ℝ) → ℝ) (x v w : Fin N → ℝ) :
    fderiv ℝ (fderiv ℝ f) x v w = bil (hessAt f x) v w := by
  rw [← ContinuousLinearMap.flip_apply, clm_eq_sum]
  simp only [ContinuousLinearMap.flip_apply, hess_row, bil, Finset.sum_mul]
  exact Finset.sum_congr rfl fun i _ => Finset.sum_congr rfl fun j _ => by ring

theorem tc_line_two_quad (f : (Fin N → ℝ) → ℝ) (x v : Fin N → ℝ) (hf : ContDiffAt ℝ 2 f x) :
    tc (fun t => f (line x v t)) 2 = quad (hessAt f x) v := by
  rw [tc_line_two f x v hf, snd_eq_bil]; rfl

theorem hessAt_symm (f : (Fin N → ℝ) → ℝ) (x : Fin N → ℝ) (hf : ContDiffAt ℝ 2 f x) (n m : Fin N) :
    hessAt f x n m = hessAt f x m n :=
  hf.isSymmSndFDerivAt (by simp) _ _  -- `by simp`: the order bound `minSmoothness ℝ 2 ≤ 2` of `isSymmSndFDerivAt`

/-- **first Taylor coefficient of the gradient along a line is the Hessian-vector product**:
`[t¹] ∂F/∂x_j (x + t v) = Σ_i ∂²F/∂x_j∂x_i · v_i` — what `hessian`, `hess_vec`, `vec_hess` read from `xbar.data[1]` -/
theorem tc_grad_line_one (f : (Fin N → ℝ) → ℝ) (x v : Fin N → ℝ) (hf : ContDiffAt ℝ 2 f x) (j : Fin N) :
    tc (fun t => gradAt f (line x v t) j) 1 = ∑ i, hessAt f x j i * v i := by
  rw [← hess_row, hf.isSymmSndFDerivAt (by simp) _ v]  -- `by simp` as in `hessAt_symm`
  exact tc_fderiv_line_one f x v (Pi.single j 1) hf

end
end AV
