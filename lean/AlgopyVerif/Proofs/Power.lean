import AlgopyVerif.Proofs.Jet
import Mathlib.Analysis.SpecialFunctions.Pow.Deriv
/-!
# Powers: `_pow_real` (general exponent branch) and the natural-exponent branches

Generic statement for the differential identity `Y' · X = r · Y · X'`, instantiated with
`Y = X ^ r` (`Real.rpow`, `x₀ > 0`) and `Y = X ^ n` (`n : ℤ`, `x₀ ≠ 0`).  The natural exponents need no division: repeated
products (`powNatS`), square and multiply (`powBinS`), masked products for an array of exponents (`powMaskS`).
-/
open Polynomial Filter Topology
open scoped ContDiff

namespace AV

theorem JetOf.powReal_generic {x : List ℝ} {X Y : ℝ → ℝ} (hx : JetOf x X) (r : ℝ) (hY : Smooth0 Y)
    (h0 : X 0 ≠ 0) (hode : deriv Y * X =ᶠ[𝓝 0] deriv X * fun t => r * Y t) :
    JetOf (powRealS r (Y 0) x) Y := by
  have hX0 : tc X 0 ≠ 0 := by rwa [tc_zero]
  refine .of_eq_map_range hY (build_ite_eq_map_range (fun _ => tc_zero _) fun d hd => ?_)
  have hne : ((d + 1 : ℕ) : ℝ) ≠ 0 := by exact_mod_cast Nat.succ_ne_zero d
  simp (disch := omega) only [List.length_map, List.length_range, co_map_range, hx.coeff]
  rw [nat_eq, eq_div_iff hne, eq_div_iff hX0, mul_comm, mul_comm (tc Y _), tc_of_deriv_mul_eq hY hx.smooth hode,
    tc_deriv_mul hx.smooth (contDiffAt_const.mul hY), sumRange_eq, sumRange_eq, Finset.mul_sum]
  simp only [Nat.add_sub_cancel, succ_sub_one_add, nat_eq, tc_const_mul]
  exact congrArg₂ _ (Finset.sum_congr rfl fun i _ => by ring) (Finset.sum_congr rfl fun j _ => by ring)

theorem JetOf.rpow {x : List ℝ} {X : ℝ → ℝ} (hx : JetOf x X) (r : ℝ) (h0 : 0 < X 0) :
    JetOf (powRealS r ((X 0) ^ r) x) (fun t => (X t) ^ r) := by
  refine hx.powReal_generic r (ContDiffAt.rpow_const_of_ne hx.smooth h0.ne') h0.ne' ?_
  filter_upwards [deriv_comp_of_hasDerivAt (f := fun y : ℝ => y ^ r) (f' := fun y => r * y ^ (r - 1)) hx.smooth
      ((lt_mem_nhds h0).mono fun y hy => Real.hasDerivAt_rpow_const (Or.inl hy.ne')),
    hx.smooth.continuousAt.eventually (lt_mem_nhds h0)] with t ht hp
  rw [Pi.mul_apply, ht, Pi.mul_apply, Pi.mul_apply, Real.rpow_sub_one hp.ne', mul_assoc, mul_assoc,
    div_mul_cancel₀ _ hp.ne']

theorem contDiffAt_zpow' (n : ℤ) {a : ℝ} (ha : a ≠ 0) : ContDiffAt ℝ ∞ (fun y : ℝ => y ^ n) a := by
  cases n with
  | ofNat m =>
    exact (contDiffAt_id (x := a)).pow m
  | negSucc m =>
    exact ((contDiffAt_id (x := a)).pow (m + 1)).inv (pow_ne_zero _ ha)

/-- the code takes the general branch for an integer exponent `n < 0` -/
theorem JetOf.zpow {x : List ℝ} {X : ℝ → ℝ} (hx : JetOf x X) (n : ℤ) (h0 : X 0 ≠ 0) :
    JetOf (powRealS (n : ℝ) ((X 0) ^ n) x) (fun t => (X t) ^ n) := by
  refine hx.powReal_generic (n : ℝ) (smooth0_comp hx.smooth (contDiffAt_zpow' n h0)) h0 ?_
  filter_upwards [deriv_comp_of_hasDerivAt (f := fun y : ℝ => y ^ n) (f' := fun y => (n : ℝ) * y ^ (n - 1)) hx.smooth
      ((eventually_ne_nhds h0).mono fun y hy => hasDerivAt_zpow n y (Or.inl hy)),
    hx.smooth.continuousAt.eventually_ne h0] with t ht hp
  rw [Pi.mul_apply, ht, Pi.mul_apply, Pi.mul_apply, zpow_sub_one₀ hp, mul_assoc, mul_assoc,
    inv_mul_cancel_right₀ hp]

theorem JetOf.foldl_mul {x : List ℝ} {X : ℝ → ℝ} (hx : JetOf x X) (m : ℕ) :
    JetOf ((List.range m).foldl (fun y _ => mulS x y) x) (fun t => X t ^ (m + 1))
    ∧ ((List.range m).foldl (fun y _ => mulS x y) x).length = x.length := by
  induction m with
  | zero => exact ⟨hx.of_eq fun t => pow_one _, rfl⟩
  | succ m ih =>
    rw [List.range_succ, List.foldl_append]
    exact ⟨(hx.mul ih.1 ih.2).of_eq fun t => pow_succ' _ _, mulS_length _ _⟩

theorem JetOf.pownat {x : List ℝ} {X : ℝ → ℝ} (hx : JetOf x X) (r : ℕ) :
    JetOf (powNatS r x) (fun t => X t ^ r) := by
  match r with
  | 0 => exact (jetOf_const 1 _).of_eq fun t => pow_zero _
  | 1 => exact hx.of_eq fun t => pow_one _
  | 2 => exact hx.square.of_eq fun t => sq _
  | r + 3 => exact (hx.foldl_mul (r + 2)).1

/-- the invariant of square and multiply: the result is `acc · base ^ e` -/
theorem powBinLoop_jet (fuel : ℕ) : ∀ (e : ℕ) (base acc : List ℝ) (B A : ℝ → ℝ), e ≤ fuel →
    JetOf base B → JetOf acc A → acc.length = base.length →
    JetOf (powBinLoop fuel e base acc) (fun t => A t * B t ^ e) ∧ (powBinLoop fuel e base acc).length = base.length := by
  induction fuel with
  | zero =>
    intro e base acc B A he hb ha hl
    obtain rfl : e = 0 := by omega
    exact ⟨ha.of_eq fun t => by rw [pow_zero, mul_one], hl⟩
  | succ fuel ih =>
    intro e base acc B A he hb ha hl
    rw [powBinLoop]
    split_ifs with h0 h1 h2 h2
    · -- `e = 0`
      subst h0; exact ⟨ha.of_eq fun t => by rw [pow_zero, mul_one], hl⟩
    · -- `e = 1`: the last multiplication
      obtain rfl : e = 1 := by omega
      exact ⟨(hb.mul ha hl).of_eq fun t => by rw [pow_one, mul_comm]; rfl, mulS_length _ _⟩
    · -- `e` odd, `e > 1`: multiply, then square
      have := ih (e / 2) (mulS base base) (mulS base acc) (B * B) (B * A) (by omega) (hb.mul hb rfl) (hb.mul ha hl)
        (by rw [mulS_length, mulS_length])
      refine ⟨this.1.of_eq fun t => ?_, by rw [this.2, mulS_length]⟩
      rw [Pi.mul_apply, Pi.mul_apply, ← pow_two, ← pow_mul, mul_comm (B t), mul_assoc, ← pow_succ']
      congr 2; omega
    · -- `e` even with `e / 2 = 0` is `e = 0`
      omega
    · -- `e` even, `e > 0`: square only
      have := ih (e / 2) (mulS base base) acc (B * B) A (by omega) (hb.mul hb rfl) ha (by rw [hl, mulS_length])
      refine ⟨this.1.of_eq fun t => ?_, by rw [this.2, mulS_length]⟩
      rw [Pi.mul_apply, ← pow_two, ← pow_mul]
      congr 2; omega

theorem JetOf.powbin {x : List ℝ} {X : ℝ → ℝ} (hx : JetOf x X) (r : ℕ) :
    JetOf (powBinS r x) (fun t => X t ^ r) ∧ (powBinS r x).length = x.length := by
  have h := powBinLoop_jet (r + 1) r x (constS 1 x.length) X (fun _ => 1) (by omega) hx (jetOf_const 1 _) (by simp)
  exact ⟨h.1.of_eq fun t => (one_mul _).symm, h.2⟩

theorem JetOf.powMask {x : List ℝ} {X : ℝ → ℝ} (hx : JetOf x X) (r m : ℕ) :
    JetOf (powMaskS r m x) (fun t => X t ^ (min r m)) ∧ (powMaskS r m x).length = x.length := by
  induction m with
  | zero => exact ⟨(jetOf_const 1 _).of_eq fun t => by rw [Nat.min_zero, pow_zero], by simp [powMaskS]⟩
  | succ m ih =>
    unfold powMaskS at ih ⊢
    rw [List.range_succ, List.foldl_append, List.foldl_cons, List.foldl_nil]
    split_ifs with h
    · refine ⟨(hx.mul ih.1 ih.2).of_eq fun t => ?_, mulS_length _ _⟩
      rw [Pi.mul_apply, Nat.min_eq_right (by omega : m ≤ r), Nat.min_eq_right h, pow_succ']
    · rwa [show min r (m + 1) = min r m by omega]

end AV
