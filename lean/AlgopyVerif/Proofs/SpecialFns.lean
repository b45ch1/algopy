import Mathlib.MeasureTheory.Integral.IntervalIntegral.FundThmCalculus
import Mathlib.Analysis.SpecialFunctions.ExpDeriv
/-!
# Concrete antiderivatives: `erf`, `erfi`, Dawson's integral

Mathlib has none of the three; they are defined here by integrals, with their derivatives (fundamental theorem of
calculus), so that the parametric theorems about antiderivatives of `c·exp(∓y²)` and solutions of `F' = 1 - 2yF`
(`C16.erf_like_nth`, `JetOf.erf`, `JetOf.erfi`, `JetOf.dawsn`) apply to actual functions, and so that the ODE kernel has a
solution through every point to be the jet of (`dawsonThrough`, needed for the truncation corollary).
-/
open Filter Topology MeasureTheory
open scoped ContDiff

namespace AV

theorem contDiff_integral_of_contDiff (g : ℝ → ℝ) (hg : ContDiff ℝ ∞ g) :
    ContDiff ℝ ∞ (fun z => ∫ s in (0:ℝ)..z, g s) := by
  rw [contDiff_infty_iff_deriv]
  refine ⟨fun y => (hg.continuous.integral_hasStrictDerivAt 0 y).hasDerivAt.differentiableAt, ?_⟩
  have : deriv (fun z => ∫ s in (0:ℝ)..z, g s) = g := by
    funext y; exact (hg.continuous.integral_hasStrictDerivAt 0 y).hasDerivAt.deriv
  rw [this]; exact hg

theorem contDiff_exp_sq : ContDiff ℝ ∞ (fun s : ℝ => Real.exp (s * s)) :=
  Real.contDiff_exp.comp (contDiff_id.mul contDiff_id)
theorem contDiff_exp_neg_sq : ContDiff ℝ ∞ (fun s : ℝ => Real.exp (-(s * s))) :=
  Real.contDiff_exp.comp (contDiff_id.mul contDiff_id).neg

/-- `c ∫₀^y exp(-s²) ds` (`erf` for `c = 2/√π`) -/
noncomputable def erfC (c : ℝ) : ℝ → ℝ := fun y => c * ∫ s in (0:ℝ)..y, Real.exp (-(s * s))
/-- `c ∫₀^y exp(s²) ds` (`erfi` for `c = 2/√π`) -/
noncomputable def erfiC (c : ℝ) : ℝ → ℝ := fun y => c * ∫ s in (0:ℝ)..y, Real.exp (s * s)
/-- Dawson's integral `exp(-y²) ∫₀^y exp(s²) ds` -/
noncomputable def dawsonF : ℝ → ℝ := fun y => Real.exp (-(y * y)) * ∫ s in (0:ℝ)..y, Real.exp (s * s)

theorem erfC_hasDerivAt (c y : ℝ) : HasDerivAt (erfC c) (c * Real.exp (-(y * y))) y :=
  (contDiff_exp_neg_sq.continuous.integral_hasStrictDerivAt 0 y).hasDerivAt.const_mul c
theorem erfiC_hasDerivAt (c y : ℝ) : HasDerivAt (erfiC c) (c * Real.exp (y * y)) y :=
  (contDiff_exp_sq.continuous.integral_hasStrictDerivAt 0 y).hasDerivAt.const_mul c
theorem erfC_contDiff (c : ℝ) : ContDiff ℝ ∞ (erfC c) :=
  contDiff_const.mul (contDiff_integral_of_contDiff _ contDiff_exp_neg_sq)
theorem erfiC_contDiff (c : ℝ) : ContDiff ℝ ∞ (erfiC c) :=
  contDiff_const.mul (contDiff_integral_of_contDiff _ contDiff_exp_sq)

theorem dawsonF_contDiff : ContDiff ℝ ∞ dawsonF :=
  contDiff_exp_neg_sq.mul (contDiff_integral_of_contDiff _ contDiff_exp_sq)

theorem hasDerivAt_exp_neg_sq (y : ℝ) :
    HasDerivAt (fun s : ℝ => Real.exp (-(s * s))) (Real.exp (-(y * y)) * -(1 * y + y * 1)) y :=
  (((hasDerivAt_id y).mul (hasDerivAt_id y)).neg).exp

theorem dawsonF_hasDerivAt (y : ℝ) : HasDerivAt dawsonF (1 - 2 * y * dawsonF y) y := by
  have h := (hasDerivAt_exp_neg_sq y).mul (contDiff_exp_sq.continuous.integral_hasStrictDerivAt 0 y).hasDerivAt
  refine h.congr_deriv ?_
  unfold dawsonF
  have he : Real.exp (-(y * y)) * Real.exp (y * y) = 1 := by rw [← Real.exp_add]; simp
  linear_combination he

theorem dawsonF_zero : dawsonF 0 = 0 := by simp [dawsonF]

/-- the solution of `F' = 1 - 2yF` through `(a, v0)` -/
noncomputable def dawsonThrough (a v0 : ℝ) : ℝ → ℝ :=
  fun y => dawsonF y + (v0 - dawsonF a) * Real.exp (a * a) * Real.exp (-(y * y))

theorem dawsonThrough_at (a v0 : ℝ) : dawsonThrough a v0 a = v0 := by
  unfold dawsonThrough
  have he : Real.exp (a * a) * Real.exp (-(a * a)) = 1 := by rw [← Real.exp_add]; simp
  linear_combination (v0 - dawsonF a) * he

theorem dawsonThrough_hasDerivAt (a v0 y : ℝ) :
    HasDerivAt (dawsonThrough a v0) (1 - 2 * y * dawsonThrough a v0 y) y := by
  have h := (dawsonF_hasDerivAt y).add ((hasDerivAt_exp_neg_sq y).const_mul ((v0 - dawsonF a) * Real.exp (a * a)))
  refine h.congr_deriv ?_
  unfold dawsonThrough
  ring

theorem dawsonThrough_contDiff (a v0 : ℝ) : ContDiff ℝ ∞ (dawsonThrough a v0) :=
  dawsonF_contDiff.add (contDiff_const.mul contDiff_exp_neg_sq)

end AV
