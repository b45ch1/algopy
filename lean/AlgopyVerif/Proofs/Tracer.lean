import AlgopyVerif.Model.Tracer
/-!
# The tracer state machine: every step keeps the recording invariant; the restores of an evaluation, fed with what
that evaluation saved, give back the heap it started from
-/
namespace AV.Tracer

theorem inv_init : Inv {} := by
  refine ⟨rfl, ?_, ?_⟩
  · intro i h; simp at h
  · intro nd h; simp at h

theorem step_inv (s : TState) (op : Op) (h : Inv s) (ha : op.ArgsBelow s.count) : Inv (step s op) := by
  obtain ⟨hc, hid, hargs⟩ := h
  cases op with
  | traceOff => exact ⟨hc, hid, hargs⟩
  | traceOn => exact ⟨hc, hid, hargs⟩
  | apply f args =>
    unfold step
    by_cases ht : s.tracing
    · simp only [ht, if_true]
      refine ⟨by simp [hc], ?_, ?_⟩
      · intro i hi
        simp only [List.length_append, List.length_singleton] at hi
        by_cases hlt : i < s.nodes.length
        · rw [List.getElem_append_left hlt]; exact hid i hlt
        · have : i = s.nodes.length := Nat.eq_of_lt_succ_of_not_lt hi hlt
          subst this
          simp [hc]
      · intro nd hnd a ha'
        rcases List.mem_append.mp hnd with h1 | h1
        · exact hargs nd h1 a ha'
        · simp only [List.mem_singleton] at h1
          subst h1
          exact ha a ha'
    · simp only [ht]
      exact ⟨hc, hid, hargs⟩

/-- well-formed operation sequences: arguments exist when they are used -/
def WFOps : List Op → TState → Prop
  | [], _ => True
  | op :: ops, s => op.ArgsBelow s.count ∧ WFOps ops (step s op)

theorem run_inv (ops : List Op) (s : TState) (h : Inv s) (hw : WFOps ops s) : Inv (run ops s) := by
  induction ops generalizing s with
  | nil => exact h
  | cons op ops ih =>
    exact ih (step s op) (step_inv s op h hw.1) hw.2

theorem step_prefix (s : TState) (op : Op) : s.nodes <+: (step s op).nodes := by
  cases op <;> simp [step]
  split <;> simp

variable {V : Type}

theorem upd_upd_self (h : Heap V) (d : Nat) (v : V) : upd (upd h d v) d (h d) = h := by
  funext i; unfold upd; split <;> simp_all

/-! ## general writes: the undo of the repaired `CGraph.pushforward` -/

theorem gundo_gsaved (ws : List (GWrite V)) (h : Heap V) : gundo (gsaved ws h) (gfwd ws h) = h := by
  induction ws generalizing h with
  | nil => rfl
  | cons w ws ih =>
    simp only [gsaved, gfwd, gundo]
    rw [ih (upd h w.d (w.g h))]
    exact upd_upd_self h w.d (w.g h)

/-- the state (heap, saved contents) reached by evaluating at the inputs `ins` from the heap `h0` -/
def evalState (ws : List (GWrite V)) (h0 : Heap V) (ins : List (Nat × V)) : Heap V × List (Nat × V) :=
  (gfwd ws (setIn ins h0), gsaved ws (setIn ins h0))

/-- inputs are set completely: what an earlier evaluation wrote into the input cells does not matter -/
def InputsCover (ins ins' : List (Nat × V)) : Prop :=
  ∀ h : Heap V, setIn ins (setIn ins' h) = setIn ins h

theorem evalUndo_fresh (ws : List (GWrite V)) (h0 : Heap V) (ins' ins : List (Nat × V)) (hc : InputsCover ins ins') :
    evalUndo ws (evalState ws h0 ins') ins = evalState ws h0 ins := by
  unfold evalUndo evalState
  rw [gundo_gsaved, hc h0]

end AV.Tracer
