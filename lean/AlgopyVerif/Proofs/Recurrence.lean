import AlgopyVerif.Proofs.Build
import Mathlib.Tactic.Ring
/-!
# Coefficient characterisation of the arithmetic kernels (formal layer of C02)

The defining convolution identity of each arithmetic kernel, over any field.  `recipS y` is `divS 1 y` and `squareS x` is
`mulS x x`: their lemmas are corollaries.
-/
namespace AV
open Finset

section
variable {K : Type} [Field K]

/-- in any semiring: the matrix kernel `dotM` is `mulS` -/
theorem mulS_co {R : Type} [Semiring R] (x y : List R) (d : Nat) (h : d < x.length) :
    co (mulS x y) d = ∑ k ∈ range (d+1), co x k * co y (d-k) := by
  unfold mulS
  rw [co_map_range h, sumRange_eq]
  simp

theorem mulS_take {R : Type} [Semiring R] (x y : List R) (m : Nat) (h : m ≤ x.length) :
    (mulS x y).take m = mulS (x.take m) (y.take m) :=
  map_range_take_congr x h fun d hd => by simp (disch := omega) only [co_take]

theorem addS_co (x y : List K) (d : ℕ) (h : d < x.length) : co (addS x y) d = co x d + co y d := by
  unfold addS; rw [co_map_range h]

theorem subS_co (x y : List K) (d : ℕ) (h : d < x.length) : co (subS x y) d = co x d - co y d := by
  unfold subS; rw [co_map_range h]

theorem plusConstS_take (x : List K) (c : K) (m : Nat) (h : m ≤ x.length) :
    (plusConstS x c).take m = plusConstS (x.take m) c :=
  map_range_take_congr x h fun d hd => by simp (disch := omega) only [co_take]

theorem sum_range_symm_split (a : ℕ → K) (d : ℕ) (hs : ∀ k, k ≤ d → a k = a (d - k)) :
    ∑ k ∈ range (d + 1), a k
      = (∑ k ∈ range ((d + 1) / 2), a k * 2) + (if (d + 1) % 2 = 1 then a ((d + 1) / 2) else 0) := by
  -- the upper half of the range, reflected, is the lower half
  have hr : ∀ m n, m + n = d + 1 → ∑ i ∈ range m, a (n + i) = ∑ i ∈ range m, a i := by
    intro m n hmn
    rw [← sum_range_reflect]
    refine sum_congr rfl fun j hj => ?_
    have hj' := mem_range.mp hj
    rw [hs (n + (m - 1 - j)) (by omega)]
    congr 1; omega
  rcases Nat.even_or_odd' d with ⟨m, rfl | rfl⟩
  · rw [if_pos (Nat.mul_add_mod 2 m 1), show (2 * m + 1) / 2 = m from Nat.mul_add_div (by decide) m 1,
      show 2 * m + 1 = m + 1 + m by omega, sum_range_add, sum_range_succ, hr m (m + 1) (by omega)]
    simp only [mul_two, sum_add_distrib]
    ring
  · rw [if_neg (by omega), show (2 * m + 1 + 1) / 2 = m + 1 from Nat.mul_add_div (by decide) m 2,
      show 2 * m + 1 + 1 = m + 1 + (m + 1) by omega, sum_range_add, hr (m + 1) (m + 1) (by omega)]
    simp only [mul_two, sum_add_distrib, add_zero]

/-- `_square`: the half sum doubled, plus the middle term, is the Cauchy square -/
theorem squareS_eq_mulS (x : List K) : squareS x = mulS x x := by
  refine map_range_congr fun d _ => ?_
  rw [sumRange_eq, Nat.sub_zero]
  simp only [Nat.zero_add]
  rw [sum_range_symm_split (fun k => co x k * co x (d - k)) d (fun k hk => by rw [Nat.sub_sub_self hk, mul_comm])]
  have hmid : d - (d + 1) / 2 = (d + 1) / 2 ∨ (d + 1) % 2 ≠ 1 := by omega
  by_cases h0 : d = 0
  · subst h0; simp
  · simp only [if_neg h0, sumRange_eq, Nat.sub_zero, Nat.zero_add, nat_eq]
    split
    · rename_i hodd
      rcases hmid with hm | hm
      · rw [hm]; push_cast; ring
      · exact absurd hodd hm
    · push_cast; ring

theorem divS_co (x y : List K) (d : Nat) (h : d < x.length) :
    co (divS x y) d = (1 / co y 0) * (co x d - ∑ k ∈ range d, co (divS x y) k * co y (d-k)) := by
  unfold divS
  rw [co_build_take _ h, divStep, length_take_build _ h.le]
  simp (disch := omega) only [co_take, sumRange_eq, Nat.sub_zero, Nat.zero_add]

theorem divS_mul (x y : List K) (hy : co y 0 ≠ 0) (d : Nat) (h : d < x.length) :
    ∑ k ∈ range (d+1), co (divS x y) k * co y (d-k) = co x d := by
  rw [sum_range_succ, Nat.sub_self, divS_co x y d h, one_div, mul_comm _ (co y 0), mul_inv_cancel_left₀ hy,
    add_sub_cancel]

theorem divS_mulS_cancel (x y : List K) (hy : co y 0 ≠ 0) : mulS (divS x y) y = x := by
  refine list_ext_co (by simp) fun d hd => ?_
  simp only [mulS_length, divS_length] at hd
  rw [mulS_co _ _ d (by simpa using hd), divS_mul x y hy d hd]

theorem mulS_one (x : List K) : mulS x (constS 1 x.length) = x := by
  refine list_ext_co (by simp) fun d hd => ?_
  rw [mulS_length] at hd
  rw [mulS_co x _ d hd, sum_range_succ, Nat.sub_self, co_constS 1 _ 0 (by omega), sum_eq_zero, if_pos rfl, zero_add,
    mul_one]
  intro k hk
  have := mem_range.mp hk
  rw [co_constS 1 _ (d-k) (by omega), if_neg (by omega), mul_zero]

theorem divS_unique (x y z : List K) (hy : co y 0 ≠ 0) (hz : z.length = x.length)
    (h : ∀ d, d < x.length → ∑ k ∈ range (d+1), co z k * co y (d-k) = co x d) :
    z = divS x y := by
  rw [eq_map_range_of_co (co z) hz fun _ _ => rfl]
  refine (build_eq_map_range fun d hd => ?_).symm
  have hd' := h d hd
  rw [sum_range_succ, Nat.sub_self] at hd'
  rw [divStep, List.length_map, List.length_range, ← hd']
  simp (disch := omega) only [co_map_range, sumRange_eq, Nat.sub_zero, Nat.zero_add]
  rw [add_sub_cancel_left, one_div, mul_comm (co z d), inv_mul_cancel_left₀ hy]

theorem recipS_eq_divS (y : List K) : recipS y = divS (constS 1 y.length) y := by
  unfold recipS divS
  rw [constS_length]
  refine build_congr fun acc ha => ?_
  rw [recipStep, divStep, co_constS _ _ _ ha]

theorem recipS_mul (y : List K) (hy : co y 0 ≠ 0) (d : Nat) (h : d < y.length) :
    ∑ k ∈ range (d+1), co (recipS y) k * co y (d-k) = if d = 0 then 1 else 0 := by
  rw [recipS_eq_divS, divS_mul _ y hy d (by rwa [constS_length]), co_constS _ _ _ h]

theorem logS_zero (y0 : K) (x : List K) (h : 0 < x.length) : co (logS y0 x) 0 = y0 := by
  rw [logS, co_map_range h, if_pos rfl]
  exact co_build_zero _ h

theorem sincosS_build_length (s0 c0 : K) (x : List K) :
    (build (sincosStep s0 c0 x) x.length).length = x.length := build_length _ _

/-- `_tansec2` and `_tanhsech2` are one recurrence, `y' = x' z`, `z' = c y y'`: `tansec2Step y0 z0 x` is
`tanLikeStep (nat 2) y0 z0 x` and `tanhsech2Step y0 z0 x` is `tanLikeStep (-(nat 2)) y0 z0 x` by `rfl` (the factor
multiplies the whole sum in both model steps).  `JetOf.tansec2`, `JetOf.tanhsech2`, `C12.tansec2_prefix`,
`C12.tanhsech2_prefix` rely on that unfolding. -/
def tanLikeStep {K : Type} [Add K] [Mul K] [Div K] [Zero K] [NatCast K] (c y0 z0 : K) (x : List K)
    (acc : List (K × K)) : K × K :=
  let d := acc.length
  if d = 0 then (y0, z0) else
    let y := (sumRange 1 (d+1) fun k => nat k * co x k * ((acc.getD (d-k) (0,0)).2)) / nat d
    let yy : Nat → K := fun j => if j = d then y else (acc.getD j (0,0)).1
    let z := (c * (sumRange 1 (d+1) fun k => nat k * yy k * yy (d-k))) / nat d
    (y, z)

theorem tanLike_take (c y0 z0 : K) (x : List K) (m : ℕ) (h : m ≤ x.length) :
    (((build (tanLikeStep c y0 z0 x) x.length).unzip.1).take m, ((build (tanLikeStep c y0 z0 x) x.length).unzip.2).take m)
      = (build (tanLikeStep c y0 z0 (x.take m)) (x.take m).length).unzip :=
  pair_take (tanLikeStep c y0 z0) x m h fun acc ha => by simp (disch := omega) only [tanLikeStep, co_take]

end
end AV
