import AlgopyVerif.Model.Drivers
import Mathlib.Algebra.BigOperators.Pi
import Mathlib.Algebra.BigOperators.Group.Finset.Sigma
import Mathlib.Tactic.Ring
/-!
# Extraction algebra of the forward drivers: second-order coefficients along the seeded
directions determine the Hessian and Hessian-vector products.
-/
open Finset
namespace AV
variable {K : Type} [Field K] {N : ℕ}

/-- `uᵀ H w` -/
def bil (H : Fin N → Fin N → K) (u w : Fin N → K) : K := ∑ i, ∑ j, u i * H i j * w j

/-- second Taylor coefficient of a function with Hessian `H` along direction `v`: `½ vᵀ H v` -/
noncomputable def quad (H : Fin N → Fin N → K) (v : Fin N → K) : K := bil H v v / 2

theorem bil_add_left (H : Fin N → Fin N → K) (u u' w : Fin N → K) : bil H (u + u') w = bil H u w + bil H u' w := by
  unfold bil
  simp only [Pi.add_apply, add_mul, sum_add_distrib]

theorem bil_add_right (H : Fin N → Fin N → K) (u w w' : Fin N → K) : bil H u (w + w') = bil H u w + bil H u w' := by
  unfold bil
  simp only [Pi.add_apply, mul_add, sum_add_distrib]

theorem bil_symm (H : Fin N → Fin N → K) (hH : ∀ i j, H i j = H j i) (u w : Fin N → K) : bil H u w = bil H w u := by
  unfold bil
  rw [Finset.sum_comm]
  apply sum_congr rfl; intro i _
  apply sum_congr rfl; intro j _
  rw [hH j i]; ring

theorem bil_single_left (H : Fin N → Fin N → K) (n : Fin N) (w : Fin N → K) :
    bil H (Pi.single n 1) w = ∑ j, H n j * w j := by
  simp [bil, Pi.single_apply]

theorem bil_single_single (H : Fin N → Fin N → K) (n m : Fin N) :
    bil H (Pi.single n 1) (Pi.single m 1) = H n m := by
  rw [bil_single_left]
  simp only [Pi.single_apply, mul_ite, mul_one, mul_zero, Finset.sum_ite_eq', Finset.mem_univ, if_true]

/-- polarization: the second-order coefficients along `u`, `w` and `u + w` determine `uᵀ H w` — with unit vectors the
off-diagonal formula of `extract_hessian`, with `u = e_n`, `w = v` that of `extract_hess_vec` -/
theorem quad_polar [CharZero K] (H : Fin N → Fin N → K) (hH : ∀ i j, H i j = H j i) (u w : Fin N → K) :
    quad H (u + w) - quad H u - quad H w = bil H u w := by
  unfold quad
  rw [bil_add_left, bil_add_right, bil_add_right, bil_symm H hH w u]
  ring

end AV
