import AlgopyVerif.Proofs.NthComplex
import Mathlib.Analysis.Calculus.Deriv.Polynomial
/-!
# Legendre closed forms: `arcsinh`, `arcsin`, `arccos`, `arccosh`

`P_k` by Bonnet's three-term recurrence (as `scipy.special.eval_legendre` / the model evaluate it);
from the recurrence alone: `(1 - X²) P_k' = (k+1) (X P_k - P_{k+1})`.  With `r' = -μ z r²`, `z' = μ (1 - z²) r`
this gives `(r^{n+1} P_n(z))' = -μ (n+1) r^{n+2} P_{n+1}(z)`, the step of all four closed forms.
-/
open Polynomial

namespace AV

noncomputable def legP : ℕ → ℂ[X]
  | 0 => 1
  | 1 => X
  | k + 2 => C (((k : ℂ) + 2)⁻¹) * (C (2 * (k : ℂ) + 3) * X * legP (k + 1) - C ((k : ℂ) + 1) * legP k)

theorem natCast_add_two_ne_zero (k : ℕ) : ((k : ℂ) + 2) ≠ 0 := by
  have : ((k : ℂ) + 2) = ((k + 2 : ℕ) : ℂ) := by push_cast; ring
  rw [this]; exact Nat.cast_ne_zero.mpr (by omega)

/-- Bonnet's recurrence, multiplicative form, with the scalars as numerals of `ℂ[X]` (what `linear_combination` works with) -/
theorem legP_rec (k : ℕ) :
    ((k : ℂ[X]) + 2) * legP (k + 2) = (2 * (k : ℂ[X]) + 3) * X * legP (k + 1) - ((k : ℂ[X]) + 1) * legP k := by
  rw [legP, ← mul_assoc, ← C_eq_natCast, ← C_ofNat, ← C_add, ← C_mul, mul_inv_cancel₀ (natCast_add_two_ne_zero k), C_1, one_mul]
  simp only [C_add, C_mul, C_eq_natCast, C_ofNat, C_1]

/-- differentiate the recurrence for `P_{k+2}` and eliminate with the two previous instances -/
theorem legP_deriv_succ (k : ℕ) :
    (1 - X ^ 2) * derivative (legP (k + 1)) = ((k : ℂ[X]) + 1) * (legP k - X * legP (k + 1)) := by
  induction k using Nat.twoStepInduction with
  | zero => simp [legP]; ring
  | one =>
    have R := legP_rec 0
    have dR := congrArg derivative R
    have h0 : legP 0 = 1 := by rw [legP]
    have h1 : legP 1 = X := by rw [legP]
    simp only [derivative_mul, derivative_add, derivative_sub, derivative_ofNat, derivative_X,
      derivative_one, derivative_zero, Nat.cast_zero, Nat.cast_one, zero_add, h0, h1] at R dR ⊢
    apply mul_left_cancel₀ (two_ne_zero : (2 : ℂ[X]) ≠ 0)
    linear_combination (1 - X ^ 2) * dR + 2 * X * R
  | more k ih1 ih2 =>
    have R1 := legP_rec k
    have R2 := legP_rec (k + 1)
    have dR2 := congrArg derivative R2
    simp only [derivative_mul, derivative_add, derivative_sub, derivative_natCast, derivative_ofNat, derivative_X,
      derivative_one] at dR2
    have hne : ((k : ℂ[X]) + 3) ≠ 0 := by exact_mod_cast (k + 2).succ_ne_zero
    apply mul_left_cancel₀ hne
    simp only [Nat.cast_add, Nat.cast_one, Nat.cast_ofNat] at R2 dR2 ih2 ⊢
    linear_combination (1 - X ^ 2) * dR2 + (2 * (k : ℂ[X]) + 5) * X * ih2 - ((k : ℂ[X]) + 2) * ih1
      + ((k : ℂ[X]) + 3) * X * R2 - ((k : ℂ[X]) + 2) * R1

theorem legP_deriv (n : ℕ) :
    (1 - X ^ 2) * derivative (legP n) = C ((n : ℂ) + 1) * (X * legP n - legP (n + 1)) := by
  rw [C_add, C_eq_natCast, C_1]
  cases n with
  | zero => simp [legP]
  | succ k =>
    rw [legP_deriv_succ]
    push_cast
    linear_combination legP_rec k

open Complex

theorem toC_legendre (w : Cx ℝ) (k : ℕ) :
    toC (Cx.legendre w k).1 = (legP k).eval (toC w) ∧ toC (Cx.legendre w (k + 1)).1 = (legP (k + 1)).eval (toC w) := by
  induction k with
  | zero =>
    constructor
    · simp [Cx.legendre, legP]
    · simp [Cx.legendre, legP, nat_eq]
  | succ k ih =>
    refine ⟨ih.2, ?_⟩
    have h2 : (Cx.legendre w (k + 1)).2 = (Cx.legendre w k).1 := by
      rw [Cx.legendre]
    rw [Cx.legendre]
    simp only [toC_div, toC_sub, toC_mul, toC_ofK, nat_eq]
    rw [h2, ih.1, ih.2, legP]
    simp only [eval_mul, eval_sub, eval_C, eval_X]
    push_cast
    rw [div_eq_inv_mul]
    ring

theorem toC_legendre_fst (w : Cx ℝ) (k : ℕ) : toC (Cx.legendre w k).1 = (legP k).eval (toC w) :=
  (toC_legendre w k).1

theorem legendre_step (μ : ℂ) (r z : ℝ → ℂ) (x : ℝ)
    (hr : HasDerivAt r (-μ * z x * r x ^ 2) x) (hz : HasDerivAt z (μ * (1 - z x ^ 2) * r x) x) (n : ℕ) :
    HasDerivAt (fun y => r y ^ (n + 1) * (legP n).eval (z y))
      (-μ * ((n : ℂ) + 1) * (r x ^ (n + 2) * (legP (n + 1)).eval (z x))) x := by
  have h1 : HasDerivAt (fun y => r y ^ (n + 1)) (((n + 1 : ℕ) : ℂ) * r x ^ (n + 1 - 1) * (-μ * z x * r x ^ 2)) x :=
    hr.pow (n + 1)
  have h2 : HasDerivAt (fun y => (legP n).eval (z y))
      ((μ * (1 - z x ^ 2) * r x) • (derivative (legP n)).eval (z x)) x :=
    ((legP n).hasDerivAt (z x)).scomp x hz
  have hid := congrArg (Polynomial.eval (z x)) (legP_deriv n)
  simp only [eval_mul, eval_sub, eval_C, eval_X, eval_pow, eval_one] at hid
  refine (h1.mul h2).congr_deriv ?_
  rw [Nat.add_sub_cancel, smul_eq_mul]
  push_cast
  linear_combination (μ * r x ^ (n + 2)) * hid

theorem recip_sqrt_sq (q : ℝ) (hq : 0 < q) : ((Real.sqrt q)⁻¹) ^ 2 * q = 1 := by
  have hs : Real.sqrt q ^ 2 = q := Real.sq_sqrt (le_of_lt hq)
  rw [inv_pow, hs]; field_simp

noncomputable def rR (a b y : ℝ) : ℝ := (Real.sqrt (a + b * y ^ 2))⁻¹

theorem hasDerivAt_rR (a b x : ℝ) (hq : 0 < a + b * x ^ 2) :
    HasDerivAt (rR a b) (-b * x * rR a b x ^ 3) x := by
  have h0 : HasDerivAt (fun y : ℝ => a + b * y ^ 2) (b * (2 * x)) x := by
    have := (((hasDerivAt_id x).pow 2).const_mul b).const_add a
    simpa using this
  have h1 := (h0.sqrt (ne_of_gt hq)).inv (ne_of_gt (Real.sqrt_pos.mpr hq))
  refine h1.congr_deriv ?_
  unfold rR
  field_simp

open scoped Nat

/-- the closed form shared by `arcsinh`, `arccosh` (`μ = 1`) and `arcsin` (`μ = i`):
`(-μ)^n n! r^{n+1} P_n(μ x r)` with `r = 1/sqrt(a + b x²)` and `μ² = b` -/
noncomputable def legGμ (μ : ℂ) (a b : ℝ) (n : ℕ) (y : ℝ) : ℂ :=
  ((-μ) ^ n * (n ! : ℂ)) * (((rR a b y : ℝ) : ℂ) ^ (n + 1) * (legP n).eval (μ * ((y * rR a b y : ℝ) : ℂ)))

theorem legGμ_chain (μ : ℂ) (a b : ℝ) (hμ : μ ^ 2 = b) (x : ℝ) (hq : 0 < a + b * x ^ 2) (n : ℕ) :
    HasDerivAt (legGμ μ a b n) (legGμ μ a b (n + 1) x) x := by
  have hr0 := hasDerivAt_rR a b x hq
  have hr : HasDerivAt (fun y : ℝ => ((rR a b y : ℝ) : ℂ))
      (-μ * (μ * ((x * rR a b x : ℝ) : ℂ)) * ((rR a b x : ℝ) : ℂ) ^ 2) x := by
    refine hr0.ofReal_comp.congr_deriv ?_
    push_cast
    linear_combination ((x : ℂ) * (rR a b x : ℂ) ^ 3) * hμ
  have hz : HasDerivAt (fun y : ℝ => μ * ((y * rR a b y : ℝ) : ℂ))
      (μ * (1 - (μ * ((x * rR a b x : ℝ) : ℂ)) ^ 2) * ((rR a b x : ℝ) : ℂ)) x := by
    refine ((((hasDerivAt_id x).mul hr0).ofReal_comp).const_mul μ).congr_deriv ?_
    simp only [id]; push_cast
    linear_combination (μ * (x : ℂ) ^ 2 * (rR a b x : ℂ) ^ 3) * hμ
  have h := (legendre_step μ (fun y : ℝ => ((rR a b y : ℝ) : ℂ)) (fun y : ℝ => μ * ((y * rR a b y : ℝ) : ℂ)) x hr hz n).const_mul
    ((-μ) ^ n * (n ! : ℂ))
  refine h.congr_deriv ?_
  rw [legGμ, pow_succ (-μ), Nat.factorial_succ]; push_cast; ring

/-- `rR a b` is the derivative of `arsinh` (`a = b = 1`), `arcosh` (`a = -1`, `b = 1`), `arcsin` and `-arccos`
(`a = 1`, `b = -1`) -/
theorem iteratedDeriv_rR (μ : ℂ) (a b : ℝ) (hμ : μ ^ 2 = b) {S : Set ℝ} (hS : IsOpen S)
    (hq : ∀ y ∈ S, 0 < a + b * y ^ 2) (n : ℕ) {x : ℝ} (hx : x ∈ S) :
    iteratedDeriv n (rR a b) x = (legGμ μ a b n x).re := by
  rw [← iteratedDeriv_of_chain S hS (fun n y => (legGμ μ a b n y).re)
    (fun n y hy => reCLM.hasFDerivAt.comp_hasDerivAt y (legGμ_chain μ a b hμ y (hq y hy) n)) n x hx]
  exact congrArg (iteratedDeriv n · x) (funext fun y => by simp [legGμ, legP])

theorem dArcsinh_eq (l x : ℝ) (n : ℕ) : dArcsinh l x (rR 1 1 x) (n + 1) = (legGμ 1 1 1 n x).re := by
  unfold dArcsinh legGμ
  rw [if_neg (Nat.succ_ne_zero n), Nat.add_sub_cancel, ← toC_re, toC_legendre_fst, toC_ofK, negOnePow_eq, fact_eq,
    nat_eq, powN_eq, one_mul]
  have : ((-1 : ℂ) ^ n * (n ! : ℂ)) * (((rR 1 1 x : ℝ) : ℂ) ^ (n + 1) * (legP n).eval (((x * rR 1 1 x : ℝ)) : ℂ))
      = (((-1 : ℝ) ^ n * (n ! : ℝ) * rR 1 1 x ^ (n + 1) : ℝ) : ℂ) * (legP n).eval (((x * rR 1 1 x : ℝ)) : ℂ) := by
    push_cast; ring
  rw [this, Complex.re_ofReal_mul]

theorem dArccosh_eq (l x : ℝ) (n : ℕ) : dArccosh l x (rR (-1) 1 x) (n + 1) = (legGμ 1 (-1) 1 n x).re := by
  unfold dArccosh legGμ
  rw [if_neg (Nat.succ_ne_zero n), Nat.add_sub_cancel, ← toC_re]
  congr 1
  simp only [toC_mul, toC_neg, toC_npow, toC_ofK, toC_I, toC_legendre_fst, fact_eq, nat_eq, one_mul]
  have harg : I * (x : ℂ) * (-I * ((rR (-1) 1 x : ℝ) : ℂ)) = ((x * rR (-1) 1 x : ℝ) : ℂ) := by
    push_cast
    linear_combination (-(x : ℂ) * (rR (-1) 1 x : ℂ)) * I_sq
  have hpow : (-I) ^ (n + 1) * (-I * ((rR (-1) 1 x : ℝ) : ℂ)) ^ (n + 1) = (-1) ^ (n + 1) * ((rR (-1) 1 x : ℝ) : ℂ) ^ (n + 1) := by
    rw [← mul_pow, ← mul_pow]
    congr 1
    linear_combination ((rR (-1) 1 x : ℝ) : ℂ) * I_sq
  rw [harg]
  linear_combination (-((n ! : ℂ) * (legP n).eval (((x * rR (-1) 1 x : ℝ)) : ℂ))) * hpow

theorem dArcsin_eq (l x : ℝ) (n : ℕ) : dArcsin l x (rR 1 (-1) x) (n + 1) = (legGμ I 1 (-1) n x).re := by
  unfold dArcsin legGμ
  rw [if_neg (Nat.succ_ne_zero n), Nat.add_sub_cancel, ← toC_re]
  congr 1
  simp only [toC_mul, toC_neg, toC_npow, toC_ofK, toC_I, toC_legendre_fst, fact_eq, nat_eq]
  push_cast
  -- `I * (-I) ^ (n + 1) = (-I) ^ n`
  linear_combination (-(-I) ^ n * (n ! : ℂ) * (rR 1 (-1) x : ℂ) ^ (n + 1)
    * (legP n).eval (I * ((x : ℂ) * (rR 1 (-1) x : ℂ)))) * I_sq

end AV
