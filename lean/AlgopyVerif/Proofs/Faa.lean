import AlgopyVerif.Proofs.Jet
/-!
# Faà di Bruno in power form, and `_eval_slow_generic`

For `X` smooth at 0, `a = X 0`, `h = X - a` and `f` smooth at `a`:

    tc (f ∘ X) i = Σ_{d ≤ n} f⁽ᵈ⁾(a)/d! · tc (h^d) i        for every n ≥ i.

`_eval_slow_generic` accumulates exactly these sums, with `accum` holding the coefficients of `h^d`.
-/
open Polynomial Filter Topology
open scoped ContDiff

namespace AV

noncomputable def shift0 (X : ℝ → ℝ) : ℝ → ℝ := fun t => X t - X 0

theorem smooth0_shift0 {X : ℝ → ℝ} (hX : Smooth0 X) : Smooth0 (shift0 X) := hX.sub contDiffAt_const

theorem tc_shift0_zero (X : ℝ → ℝ) : tc (shift0 X) 0 = 0 := by rw [tc_zero]; simp [shift0]

theorem tc_shift0_succ {X : ℝ → ℝ} (hX : Smooth0 X) (k : ℕ) : tc (shift0 X) (k + 1) = tc X (k + 1) := by
  rw [show shift0 X = X - fun _ => X 0 from rfl, tc_sub hX contDiffAt_const, tc_const, if_neg (Nat.succ_ne_zero k),
    sub_zero]

theorem tc_pow_shift0_zero (X : ℝ → ℝ) (d : ℕ) (hd : 1 ≤ d) : tc (fun t => shift0 X t ^ d) 0 = 0 := by
  rw [tc_zero, show shift0 X 0 = 0 by simp [shift0]]
  exact zero_pow (by omega)

theorem tc_pow_zero_succ (h : ℝ → ℝ) (k : ℕ) : tc (fun t => h t ^ 0) (k + 1) = 0 := by
  rw [show (fun t => h t ^ 0) = fun _ => (1:ℝ) from funext fun t => pow_zero _, tc_const, if_neg (Nat.succ_ne_zero k)]

/-- `(h^{e+1})' = h'·(e+1)h^e` read through `tc`, with `h' = X'` -/
theorem succ_mul_tc_pow_shift0 {X : ℝ → ℝ} (hX : Smooth0 X) (e i : ℕ) :
    ((i + 1 : ℕ) : ℝ) * tc (fun t => shift0 X t ^ (e + 1)) (i + 1)
      = ∑ j ∈ Finset.range (i + 1), ((1 + j : ℕ) : ℝ) * tc X (1 + j)
          * (((e + 1 : ℕ) : ℝ) * tc (fun t => shift0 X t ^ e) (i - j)) := by
  have hh := smooth0_shift0 hX
  rw [tc_of_deriv_eq_mul hh (contDiffAt_const.mul (ContDiffAt.pow hh e)) (deriv_comp_of_hasDerivAt
    (f' := fun y => ((e + 1 : ℕ) : ℝ) * y ^ e) hh (.of_forall fun y => hasDerivAt_pow (e + 1) y))]
  exact Finset.sum_congr rfl fun j _ => by rw [tc_const_mul, Nat.add_comm 1 j, tc_shift0_succ hX]

theorem faa_power {X : ℝ → ℝ} (hX : Smooth0 X) :
    ∀ i n, i ≤ n → ∀ f : ℝ → ℝ, ContDiffAt ℝ ∞ f (X 0) →
      tc (fun t => f (X t)) i = ∑ d ∈ Finset.range (n + 1), tcAt f (X 0) d * tc (fun t => shift0 X t ^ d) i := by
  intro i
  induction i using Nat.strong_induction_on with
  | _ i ih =>
    intro n hn f hf
    cases i with
    | zero =>
      rw [tc_zero, Finset.sum_range_succ',
        Finset.sum_eq_zero fun d _ => by rw [tc_pow_shift0_zero X (d + 1) (by omega), mul_zero], tc_zero]
      simp [tcAt]
    | succ i =>
      obtain ⟨m, rfl⟩ : ∃ m, n = m + 1 := ⟨n - 1, by omega⟩
      apply succ_mul_cancel i
      -- left: `(f ∘ X)' = X'·(f' ∘ X)` and the statement for `f'` at the orders `≤ i`;
      -- right: the term `d = 0` vanishes, the others are `(h^{e+1})' = X'·(e+1)h^e`
      rw [tc_of_deriv_eq_mul hX (smooth0_comp hX (contDiffAt_deriv_of hf)) (deriv_comp_eventually hX hf),
        Finset.mul_sum, Finset.sum_range_succ' _ (m + 1), tc_pow_zero_succ, mul_zero, mul_zero, add_zero,
        Finset.sum_congr rfl fun j hj => by
          rw [ih (i - j) (by omega) m (by have := Finset.mem_range.mp hj; omega) (deriv f) (contDiffAt_deriv_of hf),
            Finset.mul_sum],
        Finset.sum_comm]
      refine Finset.sum_congr rfl fun e _ => ?_
      rw [mul_left_comm, succ_mul_tc_pow_shift0 hX, Finset.mul_sum]
      exact Finset.sum_congr rfl fun j _ => by rw [← tcAt_succ]; ring

/-- coefficient `k+1` of `h^d` : what `accum[k]` holds while the `d`-th term is added -/
noncomputable def accC (X : ℝ → ℝ) (d k : ℕ) : ℝ := tc (fun t => shift0 X t ^ d) (k + 1)

theorem accC_one {X : ℝ → ℝ} (hX : Smooth0 X) (k : ℕ) : accC X 1 k = tc X (k + 1) := by
  rw [accC, show (fun t => shift0 X t ^ 1) = shift0 X from funext fun t => pow_one _, tc_shift0_succ hX]

theorem accC_succ {X : ℝ → ℝ} (hX : Smooth0 X) (d : ℕ) (hd : 1 ≤ d) (k : ℕ) :
    accC X (d + 1) k = ∑ j ∈ Finset.range k, accC X d j * tc X (k - j) := by
  have hh := smooth0_shift0 hX
  unfold accC
  rw [show (fun t => shift0 X t ^ (d + 1)) = (fun t => shift0 X t ^ d) * shift0 X from funext fun t => pow_succ _ _,
    tc_mul_at (ContDiffAt.pow hh d) hh, Finset.sum_range_succ', tc_pow_shift0_zero X d hd, zero_mul, add_zero,
    Finset.sum_range_succ, Nat.sub_self, tc_shift0_zero, mul_zero, add_zero]
  refine Finset.sum_congr rfl fun j hj => ?_
  have hj' := Finset.mem_range.mp hj
  rw [Nat.add_sub_add_right, ← Nat.sub_add_cancel (Nat.sub_pos_of_lt hj'), tc_shift0_succ hX]

/-- the list `y` of `go` when the terms `d = 1 … m` have been added -/
noncomputable def slowGenericY (derivs : List ℝ) (X : ℝ → ℝ) (n m : ℕ) : List ℝ :=
  (List.range n).map fun i => if i = 0 then co derivs 0 else
    ∑ e ∈ Finset.range m, co derivs (e + 1) * accC X (e + 1) (i - 1) / (((e + 1).factorial : ℕ) : ℝ)

/-- `go` started before term `m+1` with `accum` holding the coefficients of `h^m` (anything for `m = 0`) -/
theorem go_eq {x : List ℝ} {X : ℝ → ℝ} (hx : JetOf x X) (derivs : List ℝ) :
    ∀ fuel m accum, (m = 0 ∨ (accum.length = x.length - 1 ∧ ∀ k, k < x.length - 1 → co accum k = accC X m k)) →
      slowGenericS.go derivs x x.length fuel (m + 1) accum (slowGenericY derivs X x.length m)
        = slowGenericY derivs X x.length (m + fuel) := by
  intro fuel
  induction fuel with
  | zero => intro m accum _; rfl
  | succ fuel ih =>
    intro m accum h
    rw [slowGenericS.go, show m + (fuel + 1) = m + 1 + fuel by omega]
    -- the new `accum` holds the coefficients of `h^{m+1}`
    have hA : (if m + 1 = 1 then x.drop 1 else accumNext x accum).length = x.length - 1 ∧ ∀ k, k < x.length - 1 →
        co (if m + 1 = 1 then x.drop 1 else accumNext x accum) k = accC X (m + 1) k := by
      rcases Nat.eq_zero_or_pos m with rfl | hm
      · exact ⟨by simp, fun k hk => by rw [if_pos rfl, co_drop_one, accC_one hx.smooth, hx.coeff (k + 1) (by omega)]⟩
      · obtain ⟨hl, hc⟩ := h.resolve_left hm.ne'
        rw [if_neg (by omega)]
        refine ⟨by simp [accumNext, hl], fun k hk => ?_⟩
        rw [accumNext, co_map_range (by rw [hl]; exact hk), accC_succ hx.smooth m hm k]
        split_ifs with hk0
        · rw [hk0, Finset.sum_range_zero]
        · rw [sumRange_eq, Nat.sub_zero]
          refine Finset.sum_congr rfl fun j hj => ?_
          have hj' := Finset.mem_range.mp hj
          rw [Nat.zero_add, hc j (by omega), hx.coeff (k - j) (by omega)]
    generalize (if m + 1 = 1 then x.drop 1 else accumNext x accum) = accum' at hA ⊢
    rw [← ih (m + 1) _ (Or.inr hA)]
    congr 1
    refine map_range_congr fun i hi => ?_
    rw [slowGenericY, co_map_range (by omega : 0 < x.length), co_map_range hi, if_pos rfl]
    by_cases hi0 : i = 0
    · rw [if_pos hi0, if_pos hi0]
    · rw [if_neg hi0, if_neg hi0, if_neg hi0, Finset.sum_range_succ, hA.2 (i - 1) (by omega), nat_eq, fact_eq]

theorem slowGenericS_eq {x : List ℝ} {X : ℝ → ℝ} (hx : JetOf x X) (derivs : List ℝ) :
    slowGenericS derivs x = slowGenericY derivs X x.length (x.length - 1) := by
  have := go_eq hx derivs (x.length - 1) 0 [] (Or.inl rfl)
  rw [Nat.zero_add (x.length - 1)] at this
  rw [← this, slowGenericS, slowGenericY]
  simp only [Finset.range_zero, Finset.sum_empty]

theorem slowGenericS_length (derivs x : List ℝ) : (slowGenericS derivs x).length = x.length := by
  rw [slowGenericS_eq (jetOf_curve x), slowGenericY, List.length_map, List.length_range]

theorem JetOf.slowGeneric {x : List ℝ} {X : ℝ → ℝ} (hx : JetOf x X) (f : ℝ → ℝ) (hf : ContDiffAt ℝ ∞ f (X 0))
    (derivs : List ℝ) (hd : ∀ d, d < x.length → co derivs d = iteratedDeriv d f (X 0)) :
    JetOf (slowGenericS derivs x) (fun t => f (X t)) := by
  refine .of_eq_map_range (smooth0_comp hx.smooth hf) (n := x.length) ?_
  rw [slowGenericS_eq hx, slowGenericY]
  refine map_range_congr fun i hi => ?_
  cases i with
  | zero => rw [if_pos rfl, hd 0 hi, tc_zero, iteratedDeriv_zero]
  | succ k =>
    rw [if_neg (Nat.succ_ne_zero k), faa_power hx.smooth (k + 1) (x.length - 1) (by omega) f hf, Finset.sum_range_succ',
      tc_pow_zero_succ, mul_zero, add_zero]
    refine Finset.sum_congr rfl fun e he => ?_
    have he' := Finset.mem_range.mp he
    rw [hd (e + 1) (by omega), tcAt, accC, Nat.add_sub_cancel]
    ring

/-- every list of derivative leaves is realised by a polynomial `f`, `f⁽ᵈ⁾(a) = derivs[d]` for `d < n` (used for the
truncation property) -/
noncomputable def polyWithDerivs (derivs : List ℝ) (n : ℕ) (a : ℝ) : ℝ → ℝ :=
  fun y => curve ((List.range n).map fun d => co derivs d / (d.factorial : ℝ)) (y - a)

theorem polyWithDerivs_smooth (derivs : List ℝ) (n : ℕ) (a b : ℝ) : ContDiffAt ℝ ∞ (polyWithDerivs derivs n a) b :=
  (contDiffAt_poly _ (b - a)).comp b (contDiffAt_id.sub contDiffAt_const)

theorem polyWithDerivs_iteratedDeriv (derivs : List ℝ) (n : ℕ) (a : ℝ) (d : ℕ) (hd : d < n) :
    iteratedDeriv d (polyWithDerivs derivs n a) a = co derivs d := by
  unfold polyWithDerivs
  rw [iteratedDeriv_comp_sub_const]
  simp only [sub_self]
  have h := tc_curve ((List.range n).map fun d => co derivs d / (d.factorial : ℝ)) d
  unfold tc at h
  rw [co_map_range hd] at h
  field_simp at h
  exact h

end AV
