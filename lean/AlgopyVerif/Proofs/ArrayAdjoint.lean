import Mathlib.Algebra.BigOperators.Fin
/-!
# Array-level structural operations: gather / scatter adjoints

Every shape operation that only moves cells (broadcasting, basic indexing and views, `reshape`, `transpose`, `tile`, `diag`,
`triu/tril` masks as gathers from a zero-extended source, `symvec/vecsym`) is a gather `y_i = x_{m(i)}` along an index map `m`,
not necessarily injective: broadcasting repeats cells.  Its adjoint is the scatter-add `xbar_j = Σ_{m(i)=j} ybar_i`.  Item
assignment `x[idx] = v` along an injective map is the complementary pair: masked copy for `x`, gather for `v`.
-/
open Finset

namespace AV.ArrayAdj
variable {A : Type} [CommRing A] {ι κ : Type} [Fintype ι] [Fintype κ] [DecidableEq κ]

def scatterAdd (m : ι → κ) (ybar : ι → A) (j : κ) : A := ∑ i ∈ univ.filter (fun i => m i = j), ybar i

omit [Fintype κ] in
/-- for an injective map (views, reshape, transpose) the scatter-add has at most one term -/
theorem scatterAdd_injective (m : ι → κ) (hm : Function.Injective m) (ybar : ι → A) (i : ι) :
    scatterAdd m ybar (m i) = ybar i := by
  unfold scatterAdd
  rw [sum_eq_single_of_mem i (by simp)]
  intro b hb hne
  exact absurd (hm (mem_filter.mp hb).2) hne

omit [Fintype κ] in
theorem scatterAdd_not_range (m : ι → κ) (ybar : ι → A) (j : κ) (hj : ∀ i, m i ≠ j) :
    scatterAdd m ybar j = 0 := by
  apply sum_eq_zero
  intro i hi
  exact absurd (mem_filter.mp hi).2 (hj i)

/-- item assignment along an injective map: result cell `j` is `v i` if `j = m i`, else `x j` -/
noncomputable def assign [DecidableEq ι] (m : ι → κ) (x : κ → A) (v : ι → A) (j : κ) : A :=
  if h : ∃ i, m i = j then v h.choose else x j

theorem assign_hit [DecidableEq ι] (m : ι → κ) (hm : Function.Injective m) (x : κ → A) (v : ι → A) (i : ι) :
    assign m x v (m i) = v i := by
  unfold assign
  have h : ∃ i', m i' = m i := ⟨i, rfl⟩
  rw [dif_pos h, hm h.choose_spec]

theorem assign_miss [DecidableEq ι] (m : ι → κ) (x : κ → A) (v : ι → A) (j : κ) (hj : ∀ i, m i ≠ j) :
    assign m x v j = x j := by
  unfold assign
  rw [dif_neg (fun ⟨i, hi⟩ => hj i hi)]

theorem assign_eq [DecidableEq ι] (m : ι → κ) (hm : Function.Injective m) (x : κ → A) (v : ι → A) (j : κ) :
    assign m x v j = (if ∃ i, m i = j then 0 else x j) + scatterAdd m v j := by
  by_cases h : ∃ i, m i = j
  · obtain ⟨i, rfl⟩ := h
    rw [assign_hit m hm, scatterAdd_injective m hm, if_pos ⟨i, rfl⟩, zero_add]
  · rw [assign_miss m x v j fun i hi => h ⟨i, hi⟩, scatterAdd_not_range m v j fun i hi => h ⟨i, hi⟩, if_neg h, add_zero]

end AV.ArrayAdj
