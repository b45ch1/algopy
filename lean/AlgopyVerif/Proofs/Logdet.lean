import Mathlib.Analysis.SpecialFunctions.Log.Basic
/-!
# `logdet` through the pivoted LU factors

`UTPM.logdet` returns `Σ log|u_i|` with `u_i` the diagonal of `U`: the value `log|det A|` (`C07.logdet_through_lu`, proved from
`det A = sign(P) · ∏ u_i`, `det_through_lu`, and `|sign(P)| = 1`).  `logdet_formula` stands beside that theorem and is not used by it:
pointwise in `t`, `log(sign(P) · ∏ u_i) = log(c) + Σ log|u_i|` with the constant `c = sign(P) · ∏ sign(u_i) = ±1`, so
`log(det A) = Σ log|u_i|` exactly when the determinant is positive (`c = 1`).
-/
open Finset

namespace AV

theorem logdet_formula {ι : Type} (s : Finset ι) (sg : ℝ) (hsg : sg ≠ 0) (u : ι → ℝ) (hu : ∀ i ∈ s, u i ≠ 0) :
    Real.log (sg * ∏ i ∈ s, u i)
      = Real.log (sg * ∏ i ∈ s, (SignType.sign (u i) : ℝ)) + ∑ i ∈ s, Real.log |u i| := by
  have hsplit : ∏ i ∈ s, u i = (∏ i ∈ s, (SignType.sign (u i) : ℝ)) * ∏ i ∈ s, |u i| := by
    rw [← prod_mul_distrib]
    exact prod_congr rfl fun i _ => (sign_mul_abs (u i)).symm
  rw [hsplit, ← mul_assoc]
  have hc : sg * ∏ i ∈ s, (SignType.sign (u i) : ℝ) ≠ 0 := by
    refine mul_ne_zero hsg (prod_ne_zero_iff.mpr fun i hi => ?_)
    rcases lt_or_gt_of_ne (hu i hi) with h | h
    · simp [sign_neg h]
    · simp [sign_pos h]
  have ha : ∏ i ∈ s, |u i| ≠ 0 := prod_ne_zero_iff.mpr fun i hi => abs_ne_zero.mpr (hu i hi)
  rw [Real.log_mul hc ha, Real.log_prod (fun i hi => abs_ne_zero.mpr (hu i hi))]

end AV
