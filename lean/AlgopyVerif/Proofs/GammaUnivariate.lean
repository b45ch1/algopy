import AlgopyVerif.Model.Interp
import Mathlib.Algebra.Group.ForwardDiff
import Mathlib.RingTheory.Binomial
import Mathlib.Combinatorics.Enumerative.Stirling
/-!
# The Γ identity of exact interpolation: the facts in one variable

`mybinomial` with a rational upper argument is `Ring.choose` (so Chu–Vandermonde holds for it), powers in the
falling-factorial basis (Stirling numbers of the second kind), `C(z,j)·(j)_m = (z)_m·C(z−m, j−m)`, and the forward
differences of `x^a` at 0.  `Proofs/GammaGeneral.lean` lifts them to multi-indices.
-/
open Finset
namespace AV.Interp

def ffall (x : ℚ) (m : ℕ) : ℚ := ∏ l ∈ range m, (x - (l : ℚ))

theorem ffall_eq_eval (x : ℚ) (m : ℕ) : ffall x m = (descPochhammer ℚ m).eval x := by
  rw [descPochhammer_eval_eq_prod_range]; rfl

theorem ffall_succ (x : ℚ) (m : ℕ) : ffall x (m + 1) = ffall x m * (x - (m : ℚ)) := by
  simp [ffall, Finset.prod_range_succ]

theorem ffall_add (x : ℚ) (m k : ℕ) : ffall x (m + k) = ffall x m * ffall (x - (m : ℚ)) k := by
  simp [ffall_eq_eval, ← descPochhammer_mul]

theorem ffall_natCast_of_lt (j m : ℕ) (h : j < m) : ffall (j : ℚ) m = 0 := by
  rw [ffall_eq_eval]; exact descPochhammer_eval_coe_nat_of_lt h

theorem binomR_eq (x : ℚ) (j : ℕ) : binomR x j = ffall x j / (j.factorial : ℚ) := by
  have h : binomR x j = ∏ k ∈ range j, (x - (k : ℚ)) / ((j : ℚ) - (k : ℚ)) := by
    rw [binomR, ← List.foldl_map (g := (· * ·)), ← List.prod_eq_foldl]; rfl
  rw [h, Finset.prod_div_distrib, ← descPochhammer_eval_eq_prod_range j (j : ℚ),
    descPochhammer_eval_eq_descFactorial, Nat.descFactorial_self]; rfl

theorem binomR_eq_choose (x : ℚ) (j : ℕ) : binomR x j = Ring.choose x j := by
  rw [binomR_eq, ffall_eq_eval, Ring.choose_eq_smul, Polynomial.descPochhammer_smeval_eq_ascPochhammer,
    Polynomial.ascPochhammer_smeval_eq_eval, descPochhammer_eval_eq_ascPochhammer, smul_eq_mul]
  exact div_eq_inv_mul _ _

theorem binomR_natCast (n j : ℕ) : binomR (n : ℚ) j = (n.choose j : ℚ) := by
  rw [binomR_eq_choose, Ring.choose_natCast]

theorem binomR_add (x y : ℚ) (d : ℕ) :
    binomR (x + y) d = ∑ a ∈ range (d + 1), binomR x a * binomR y (d - a) := by
  rw [binomR_eq_choose, Ring.add_choose_eq d (Commute.all x y), Finset.Nat.sum_antidiagonal_eq_sum_range_succ_mk]
  refine Finset.sum_congr rfl fun a _ => ?_
  rw [binomR_eq_choose, binomR_eq_choose]

theorem binomR_mul_ffall (z : ℚ) (j m : ℕ) (h : m ≤ j) :
    binomR z j * ffall (j : ℚ) m = ffall z m * binomR (z - (m : ℚ)) (j - m) := by
  obtain ⟨k, rfl⟩ := Nat.exists_eq_add_of_le h
  rw [binomR_eq, binomR_eq, ffall_add, Nat.add_sub_cancel_left, ffall_eq_eval (_ : ℕ), descPochhammer_eval_eq_descFactorial]
  have hf : ((m + k).factorial : ℚ) ≠ 0 := Nat.cast_ne_zero.mpr (Nat.factorial_ne_zero _)
  have hk : (k.factorial : ℚ) ≠ 0 := Nat.cast_ne_zero.mpr (Nat.factorial_ne_zero _)
  have hd : (((m + k).descFactorial m : ℕ) : ℚ) * (k.factorial : ℚ) = ((m + k).factorial : ℚ) := by
    have := Nat.factorial_mul_descFactorial (show m ≤ m + k by omega)
    rw [Nat.add_sub_cancel_left] at this
    rw [mul_comm]; exact_mod_cast this
  field_simp
  rw [← hd]; ring

theorem pow_eq_sum_stirling (x : ℚ) : ∀ a : ℕ,
    x ^ a = ∑ m ∈ range (a + 1), (Nat.stirlingSecond a m : ℚ) * ffall x m
  | 0 => by simp [ffall]
  | a + 1 => by
    have hx : ∀ m, ffall x m * x = ffall x (m + 1) + (m : ℚ) * ffall x m := by
      intro m; rw [ffall_succ]; ring
    rw [pow_succ, pow_eq_sum_stirling x a, Finset.sum_mul]
    have h1 : ∀ m ∈ range (a + 1), (Nat.stirlingSecond a m : ℚ) * ffall x m * x
        = (Nat.stirlingSecond a m : ℚ) * ffall x (m + 1) + (m : ℚ) * (Nat.stirlingSecond a m : ℚ) * ffall x m := by
      intro m _; rw [mul_assoc, hx]; ring
    rw [Finset.sum_congr rfl h1, Finset.sum_add_distrib]
    -- right-hand side: `S(a+1, 0) = 0`, `S(a+1, k+1) = S(a, k) + (k+1) S(a, k+1)`
    rw [Finset.sum_range_succ' (fun m => (Nat.stirlingSecond (a + 1) m : ℚ) * ffall x m)]
    simp only [Nat.stirlingSecond_succ_zero, Nat.cast_zero, zero_mul, add_zero]
    have h2 : ∀ k ∈ range (a + 1), (Nat.stirlingSecond (a + 1) (k + 1) : ℚ) * ffall x (k + 1)
        = (Nat.stirlingSecond a k : ℚ) * ffall x (k + 1) + ((k + 1 : ℕ) : ℚ) * (Nat.stirlingSecond a (k + 1) : ℚ) * ffall x (k + 1) := by
      intro k _; rw [Nat.stirlingSecond_succ_succ, Nat.cast_add, Nat.cast_mul]; ring
    rw [Finset.sum_congr rfl h2, Finset.sum_add_distrib]
    -- the weighted sums agree after a shift of the index: the terms `m = 0` and `m = a + 1` vanish
    rw [Finset.sum_range_succ' (fun m => (m : ℚ) * (Nat.stirlingSecond a m : ℚ) * ffall x m)]
    rw [Finset.sum_range_succ (fun k => ((k + 1 : ℕ) : ℚ) * (Nat.stirlingSecond a (k + 1) : ℚ) * ffall x (k + 1))]
    rw [Nat.stirlingSecond_eq_zero_of_lt (Nat.lt_succ_self a)]
    simp only [Nat.cast_zero, zero_mul, mul_zero, add_zero]

/-- the `i`-th forward difference of `x^a` at 0 (`altU1_eq_fwdDiff`) -/
def altU1 (i a : ℕ) : ℚ := ∑ k ∈ range (i + 1), ((-1 : ℚ) ^ (i - k) * (i.choose k : ℚ) * (k : ℚ) ^ a)

open fwdDiff in
theorem altU1_eq_fwdDiff (i a : ℕ) : altU1 i a = (Δ_[1]^[i] fun x : ℚ => x ^ a) 0 := by
  rw [fwdDiff_iter_eq_sum_shift]
  simp [altU1, mul_assoc]

theorem altU1_self (i : ℕ) : altU1 i i = (i.factorial : ℚ) := by
  rw [altU1_eq_fwdDiff, fwdDiff_iter_eq_factorial]; simp

theorem altU1_lt (i a : ℕ) (h : a < i) : altU1 i a = 0 := by
  rw [altU1_eq_fwdDiff, fwdDiff_iter_pow_eq_zero_of_lt h]; rfl

theorem sgn_eq (m : ℕ) : (if m % 2 = 0 then (1 : ℚ) else -1) = (-1) ^ m := by
  rw [neg_one_pow_eq_ite]; simp only [Nat.even_iff]

end AV.Interp
