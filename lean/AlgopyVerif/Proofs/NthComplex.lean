import AlgopyVerif.Proofs.NthDeriv
import Mathlib.Analysis.SpecialFunctions.Trigonometric.ArctanDeriv
/-!
# Closed forms that go through complex numbers: `Cx ℝ → ℂ`, `arctan`

`toC` interprets the model's pair arithmetic in Mathlib's `ℂ`; it commutes with every operation the
closed forms use (including the totalised division).
-/
open Complex

namespace AV

def toC (z : Cx ℝ) : ℂ := ⟨z.re, z.im⟩

@[simp] theorem toC_re (z : Cx ℝ) : (toC z).re = z.re := rfl
@[simp] theorem toC_im (z : Cx ℝ) : (toC z).im = z.im := rfl
@[simp] theorem toC_zero : toC (0 : Cx ℝ) = 0 := rfl
@[simp] theorem toC_one : toC (1 : Cx ℝ) = 1 := rfl
@[simp] theorem toC_add (a b : Cx ℝ) : toC (a + b) = toC a + toC b := rfl
@[simp] theorem toC_sub (a b : Cx ℝ) : toC (a - b) = toC a - toC b := by
  apply Complex.ext <;> rfl
@[simp] theorem toC_neg (a : Cx ℝ) : toC (-a) = -toC a := by
  apply Complex.ext <;> rfl
@[simp] theorem toC_mul (a b : Cx ℝ) : toC (a * b) = toC a * toC b := by
  apply Complex.ext
  · show a.re * b.re - a.im * b.im = _; simp
  · show a.re * b.im + a.im * b.re = _; simp
@[simp] theorem toC_div (a b : Cx ℝ) : toC (a / b) = toC a / toC b := by
  apply Complex.ext
  · show (a.re * b.re + a.im * b.im) / (b.re * b.re + b.im * b.im) = _
    rw [Complex.div_re]; simp only [Complex.normSq_apply, toC_re, toC_im]; ring
  · show (a.im * b.re - a.re * b.im) / (b.re * b.re + b.im * b.im) = _
    rw [Complex.div_im]; simp only [Complex.normSq_apply, toC_re, toC_im]; ring
@[simp] theorem toC_I : toC (Cx.I : Cx ℝ) = Complex.I := by
  apply Complex.ext <;> simp [Cx.I]
@[simp] theorem toC_ofK (r : ℝ) : toC (Cx.ofK r) = (r : ℂ) := by
  apply Complex.ext <;> simp [Cx.ofK]
@[simp] theorem toC_npow (z : Cx ℝ) (n : ℕ) : toC (Cx.npow z n) = toC z ^ n := by
  induction n with
  | zero => simp [Cx.npow]
  | succ n ih => rw [Cx.npow, toC_mul, ih, pow_succ]

open ComplexConjugate Filter Topology
open scoped Nat

/-- iterated derivatives of the restriction to `ℝ` of a holomorphic function commute with a real-linear functional -/
theorem iteratedDeriv_clm_comp_ofReal (L : ℂ →L[ℝ] ℝ) : ∀ (n : ℕ) {F : ℂ → ℂ} {x : ℝ}, AnalyticAt ℂ F x →
    iteratedDeriv n (fun t : ℝ => L (F t)) x = L (iteratedDeriv n F x)
  | 0, F, x, _ => by rw [iteratedDeriv_zero, iteratedDeriv_zero]
  | n + 1, F, x, hF => by
    have hd : deriv (fun t : ℝ => L (F t)) =ᶠ[𝓝 x] fun t : ℝ => L (deriv F t) :=
      (Complex.continuous_ofReal.continuousAt.eventually hF.eventually_analyticAt).mono fun t ht =>
        (L.hasFDerivAt.comp_hasDerivAt t ht.differentiableAt.hasDerivAt.comp_ofReal).deriv
    rw [iteratedDeriv_succ', iteratedDeriv_succ', hd.iteratedDeriv_eq, iteratedDeriv_clm_comp_ofReal L n hF.deriv]

theorem ofReal_sub_I_ne (y : ℝ) : (y : ℂ) - Complex.I ≠ 0 := by
  intro h
  have := congrArg Complex.im h
  simp at this

theorem inv_one_add_sq (y : ℝ) : (1 + y ^ 2)⁻¹ = imCLM (((y : ℂ) - I)⁻¹) := by
  simp [Complex.inv_im, Complex.normSq_apply]
  ring

/-- `1/(1+y²) = Im 1/(y-i)`, and Mathlib has the derivatives of `z⁻¹` -/
theorem iteratedDeriv_inv_one_add_sq (n : ℕ) (x : ℝ) :
    iteratedDeriv n (fun y : ℝ => (1 + y ^ 2)⁻¹) x = ((-1) ^ n * (n ! : ℂ) * ((x : ℂ) - I) ^ (-1 - n : ℤ)).im := by
  rw [funext inv_one_add_sq, iteratedDeriv_clm_comp_ofReal imCLM n (F := fun z => (z - I)⁻¹)
      ((analyticAt_id.sub analyticAt_const).inv (ofReal_sub_I_ne x)),
    congrFun (iteratedDeriv_comp_sub_const n Inv.inv I) x, iteratedDeriv_eq_iterate, iter_deriv_inv]
  rfl

theorem re_I_half_mul_sub_conj (r : ℝ) (w : ℂ) : ((I / 2) * (r : ℂ) * (w - conj w)).re = -(r * w.im) := by
  have : (I / 2) * (r : ℂ) * (w - conj w) = ((-(r * w.im) : ℝ) : ℂ) := by
    rw [Complex.sub_conj]; push_cast; linear_combination ((r : ℂ) * w.im) * I_sq
  rw [this, ofReal_re]

/-- with `w = (x-i)^{-(n+1)}` the model's second power is `conj w`, and `Re(i/2 · r · (w - conj w)) = -r · Im w` -/
theorem dArctan_succ (l x : ℝ) (n : ℕ) :
    dArctan l x (n + 1) = ((-1) ^ n * (n ! : ℂ) * ((x : ℂ) - I) ^ (-1 - n : ℤ)).im := by
  have e1 : toC (⟨x, -1⟩ : Cx ℝ) = (x : ℂ) - I := by apply Complex.ext <;> simp
  have e2 : toC (⟨x, 1⟩ : Cx ℝ) = conj (toC ⟨x, -1⟩) := Complex.ext rfl (neg_neg _).symm
  have e3 : toC (⟨0, 1 / nat 2⟩ : Cx ℝ) = I / 2 := by apply Complex.ext <;> simp [nat_eq]
  unfold dArctan
  rw [if_neg n.succ_ne_zero, ← toC_re, show (-1 - n : ℤ) = -((n + 1 : ℕ) : ℤ) by push_cast; ring, zpow_neg, zpow_natCast]
  simp only [toC_mul, toC_sub, toC_div, toC_npow, toC_ofK, toC_one, e1, e2, e3]
  simp only [one_div, ← map_pow, ← map_inv₀]
  rw [re_I_half_mul_sub_conj, negOnePow_eq, fact_eq, nat_eq, Nat.add_sub_cancel,
    show ((-1 : ℂ) ^ n * (n ! : ℂ)) = (((-1) ^ n * (n ! : ℝ) : ℝ) : ℂ) by push_cast; rfl, Complex.im_ofReal_mul]
  ring

end AV
