import AlgopyVerif.Proofs.Jet
import Mathlib.Topology.Instances.Sign
/-!
# The kink functions away from their kinks

Near `t = 0` each of `|X|`, `sign X`, `min X Y`, `max X Y`, `clip X` coincides with a germ whose jet is known
(`sign(X 0)·X`, a constant, one of the operands), and the mask arithmetic of the code returns that jet.
-/
open Filter Topology

namespace AV

theorem eventually_sign_eq {X : ℝ → ℝ} (hX : ContinuousAt X 0) (h0 : X 0 ≠ 0) :
    ∀ᶠ t in 𝓝 (0:ℝ), SignType.sign (X t) = SignType.sign (X 0) :=
  hX.eventually <|
    (continuousAt_sign_of_ne_zero h0).eventually (p := (· = SignType.sign (X 0))) (mem_nhds_discrete.mpr rfl)

theorem JetOf.abs {x : List ℝ} {X : ℝ → ℝ} (hx : JetOf x X) (h0 : X 0 ≠ 0) :
    JetOf (absoluteS (SignType.sign (X 0) : ℝ) |X 0| x) (fun t => |X t|) := by
  have hev : (fun t => |X t|) =ᶠ[𝓝 0] fun t => (SignType.sign (X 0) : ℝ) * X t := by
    filter_upwards [eventually_sign_eq hx.smooth.continuousAt h0] with t ht
    rw [← ht, sign_mul_self]
  refine ((hx.scale _).congr hev).of_co_eq (by simp [absoluteS]) fun k hk => ?_
  have hk' : k < x.length := by simpa using hk
  rw [absoluteS, co_map_range hk', scaleS, co_map _ _ _ hk']
  split_ifs with hk0
  · rw [hk0, hx.zero (hk0 ▸ hk'), sign_mul_self]
  · exact mul_comm _ _

theorem JetOf.sign {x : List ℝ} {X : ℝ → ℝ} (hx : JetOf x X) (h0 : X 0 ≠ 0) :
    JetOf (signS (SignType.sign (X 0) : ℝ) x) (fun t => (SignType.sign (X t) : ℝ)) :=
  (jetOf_const _ _).congr ((eventually_sign_eq hx.smooth.continuousAt h0).mono fun _ ht =>
    congrArg (fun s : SignType => (s : ℝ)) ht)

theorem JetOf.min_max {x y : List ℝ} {X Y : ℝ → ℝ} (hx : JetOf x X) (hy : JetOf y Y) (hl : y.length = x.length)
    (h : X 0 < Y 0) : JetOf (selectS 1 x y) (fun t => min (X t) (Y t)) ∧ JetOf (selectS 0 x y) (fun t => max (X t) (Y t)) := by
  have hlt : ∀ᶠ t in 𝓝 (0:ℝ), X t < Y t :=
    ((hy.smooth.sub hx.smooth).continuousAt.eventually (lt_mem_nhds (sub_pos.mpr h))).mono fun t ht => sub_pos.mp ht
  constructor
  · refine (hx.congr (hlt.mono fun t ht => min_eq_left ht.le)).of_co_eq (by simp [selectS]) fun k hk => ?_
    rw [selectS, co_map_range hk]
    ring
  · refine (hy.congr (hlt.mono fun t ht => max_eq_right ht.le)).of_co_eq (by simp [selectS, hl]) fun k hk => ?_
    rw [selectS, co_map_range (hl ▸ hk)]
    ring

theorem JetOf.clip_inside {x : List ℝ} {X : ℝ → ℝ} (hx : JetOf x X) (lo hi : ℝ) (h1 : lo < X 0) (h2 : X 0 < hi) :
    JetOf (clipS (X 0) 1 x) (fun t => max lo (min (X t) hi)) := by
  have hev : (fun t => max lo (min (X t) hi)) =ᶠ[𝓝 0] X := by
    filter_upwards [hx.smooth.continuousAt.eventually (lt_mem_nhds h1),
      hx.smooth.continuousAt.eventually (gt_mem_nhds h2)] with t ha hb
    rw [min_eq_left hb.le, max_eq_right ha.le]
  refine (hx.congr hev).of_co_eq (by simp [clipS]) fun k hk => ?_
  rw [clipS, co_map_range hk]
  split_ifs with hk0
  · rw [hk0, hx.zero (hk0 ▸ hk)]
  · exact mul_one _

/-- outside the interval the clipped germ is the constant `c` (one of the bounds) and the mask is `0` -/
theorem clip_jet_const {x : List ℝ} {X : ℝ → ℝ} (lo hi c : ℝ)
    (hev : (fun t => max lo (min (X t) hi)) =ᶠ[𝓝 0] fun _ => c) :
    JetOf (clipS c 0 x) (fun t => max lo (min (X t) hi)) := by
  refine ((jetOf_const c x.length).congr hev).of_co_eq (by simp [clipS]) fun k hk => ?_
  have hk' : k < x.length := by simpa using hk
  rw [clipS, constS, co_map_range hk', co_map_range hk', mul_zero]

theorem JetOf.clip_below {x : List ℝ} {X : ℝ → ℝ} (hx : JetOf x X) (lo hi : ℝ) (h1 : X 0 < lo) :
    JetOf (clipS lo 0 x) (fun t => max lo (min (X t) hi)) :=
  clip_jet_const lo hi lo ((hx.smooth.continuousAt.eventually (gt_mem_nhds h1)).mono fun _ ha =>
    max_eq_left (le_trans (min_le_left _ _) ha.le))

theorem JetOf.clip_above {x : List ℝ} {X : ℝ → ℝ} (hx : JetOf x X) (lo hi : ℝ) (hlh : lo ≤ hi) (h2 : hi < X 0) :
    JetOf (clipS hi 0 x) (fun t => max lo (min (X t) hi)) :=
  clip_jet_const lo hi hi ((hx.smooth.continuousAt.eventually (lt_mem_nhds h2)).mono fun t ha => by
    simp only [min_eq_right ha.le, max_eq_right hlh])

end AV
