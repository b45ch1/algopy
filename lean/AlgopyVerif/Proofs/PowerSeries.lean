import AlgopyVerif.Proofs.Recurrence
import Mathlib.RingTheory.PowerSeries.Basic
/-!
# Lists as truncated formal power series

`toPS x = Σ x_k X^k`.  `mulS` is the Cauchy product in `K⟦X⟧` modulo `X^D`, so the ring laws of
`R[t]/(t^D)` (associativity here, the others in `Props/C02.lean`) follow from those of `K⟦X⟧`.
-/
open PowerSeries Finset

namespace AV
section
variable {K : Type} [Field K]

noncomputable def toPS (x : List K) : K⟦X⟧ := PowerSeries.mk (co x)

@[simp] theorem coeff_toPS (x : List K) (d : ℕ) : coeff d (toPS x) = co x d := by
  simp [toPS]

theorem coeff_mul_range {R : Type} [Semiring R] (f g : R⟦X⟧) (d : ℕ) :
    coeff d (f * g) = ∑ k ∈ range (d+1), coeff k f * coeff (d-k) g := by
  rw [PowerSeries.coeff_mul, Finset.Nat.sum_antidiagonal_eq_sum_range_succ (fun i j => coeff i f * coeff j g)]

theorem mulS_cauchy (x y : List K) (d : ℕ) (h : d < x.length) :
    co (mulS x y) d = coeff d (toPS x * toPS y) := by
  rw [mulS_co x y d h, coeff_mul_range]
  simp

theorem recipS_spec (y : List K) (hy : co y 0 ≠ 0) (d : ℕ) (h : d < y.length) :
    coeff d (toPS (recipS y) * toPS y) = coeff d (1 : K⟦X⟧) := by
  rw [coeff_mul_range, PowerSeries.coeff_one]
  simpa using recipS_mul y hy d h

theorem coeff_mul_congr {R : Type} [Semiring R] (f f' g g' : R⟦X⟧) (D : ℕ) (hf : ∀ k < D, coeff k f = coeff k f')
    (hg : ∀ k < D, coeff k g = coeff k g') (d : ℕ) (hd : d < D) :
    coeff d (f * g) = coeff d (f' * g') := by
  rw [coeff_mul_range, coeff_mul_range]
  apply sum_congr rfl
  intro k hk
  have := mem_range.mp hk
  rw [hf k (by omega), hg (d-k) (by omega)]

theorem mulS_assoc (x y z : List K) (hl : x.length = y.length) :
    mulS (mulS x y) z = mulS x (mulS y z) := by
  refine list_ext_co (by simp) fun d hd => ?_
  simp only [mulS_length] at hd
  rw [mulS_cauchy _ _ d (by simpa using hd), mulS_cauchy _ _ d hd,
    coeff_mul_congr (toPS (mulS x y)) (toPS x * toPS y) (toPS z) (toPS z) x.length
        (fun k hk => by rw [coeff_toPS, mulS_cauchy x y k hk]) (fun _ _ => rfl) d hd,
      coeff_mul_congr (toPS x) (toPS x) (toPS (mulS y z)) (toPS y * toPS z) x.length
        (fun _ _ => rfl) (fun k hk => by rw [coeff_toPS, mulS_cauchy y z k (hl ▸ hk)]) d hd,
      mul_assoc]

theorem divS_eq_mul_recip (x y : List K) (hy : co y 0 ≠ 0) (hl : x.length = y.length) :
    divS x y = mulS x (recipS y) := by
  refine (divS_unique x y _ hy (by simp) fun d hd => ?_).symm
  have h1 : mulS (mulS x (recipS y)) y = x := by
    rw [mulS_assoc x (recipS y) y (by simp [hl]), recipS_eq_divS, divS_mulS_cancel _ y hy, ← hl, mulS_one]
  rw [← mulS_co _ _ d (by simpa using hd), h1]

end
end AV
