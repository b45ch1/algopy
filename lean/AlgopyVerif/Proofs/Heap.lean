import AlgopyVerif.Model.Heap
import AlgopyVerif.Proofs.Build
import Mathlib.Tactic.Ring
/-!
# Aliasing proofs for the in-place kernels

`desc_loop_eq`: a descending loop of in-place assignments that reads only what it has not yet overwritten computes
its right-hand side from the original buffer.  The aliased `_mul` loops and `__imul__` (`Props/C14.lean`) are instances.
-/
namespace AV
open Finset

theorem foldl_range_reverse_inv {β : Type} (step : β → Nat → β) (Inv : Nat → β → Prop) :
    ∀ (n : Nat) (b : β), Inv n b → (∀ m, m < n → ∀ b', Inv (m+1) b' → Inv m (step b' m)) →
      Inv 0 ((List.range n).reverse.foldl step b) := by
  intro n
  induction n with
  | zero => intro b h _; simpa using h
  | succ n ih =>
    intro b h hs
    rw [List.range_succ, List.reverse_append, List.reverse_singleton, List.singleton_append, List.foldl_cons]
    exact ih (step b n) (hs n (by omega) b h) (fun m hm b' hb' => hs m (by omega) b' hb')

section
variable {K : Type}

theorem co_set_eq [Zero K] (b : List K) (d : Nat) (v : K) (h : d < b.length) : co (b.set d v) d = v := by
  unfold co
  rw [List.getD_eq_getElem?_getD, List.getElem?_set_self (by simpa using h)]
  rfl

theorem co_set_ne [Zero K] {b : List K} {d i : Nat} {v : K} (h : i ≠ d) : co (b.set d v) i = co b i := by
  unfold co
  rw [List.getD_eq_getElem?_getD, List.getD_eq_getElem?_getD, List.getElem?_set_ne (Ne.symm h)]

/-- `step b d` is any program with the effect of the assignment `b[d] := g b d`; `hloc`: `g b d` reads `b` only at indices `≤ d` -/
theorem desc_loop_eq [Zero K] (step : List K → Nat → List K) (g : List K → Nat → K) (x : List K)
    (hstep : ∀ b d, d < b.length → (step b d).length = b.length ∧ (∀ i, i ≠ d → co (step b d) i = co b i)
      ∧ co (step b d) d = g b d)
    (hloc : ∀ b d, (∀ i, i ≤ d → co b i = co x i) → g b d = g x d) :
    (List.range x.length).reverse.foldl step x = (List.range x.length).map (g x) := by
  have hinv := foldl_range_reverse_inv step
    (fun m b => b.length = x.length ∧ (∀ i, i < m → co b i = co x i) ∧ ∀ i, m ≤ i → i < x.length → co b i = g x i)
    x.length x ⟨rfl, fun _ _ => rfl, fun i h1 h2 => by omega⟩
    (fun m hm b ⟨hlen, hlo, hhi⟩ => by
      obtain ⟨s1, s2, s3⟩ := hstep b m (by omega)
      refine ⟨by rw [s1, hlen], fun i hi => by rw [s2 i (by omega), hlo i (by omega)], fun i hmi hix => ?_⟩
      by_cases he : i = m
      · rw [he, s3, hloc b m fun i hi => hlo i (by omega)]
      · rw [s2 i he, hhi i (by omega) hix])
  exact eq_map_range_of_co _ hinv.1 fun d hd => hinv.2.2 d (by omega) hd

/-- the `hstep` of `desc_loop_eq` for a single `List.set` -/
theorem set_spec [Zero K] (b : List K) (d : Nat) (v : K) (h : d < b.length) :
    (b.set d v).length = b.length ∧ (∀ i, i ≠ d → co (b.set d v) i = co b i) ∧ co (b.set d v) d = v :=
  ⟨by simp, fun i hi => co_set_ne hi, co_set_eq _ _ _ h⟩

/-- inner accumulation loop of `__imul__`: only entry `d` changes, to
`z_d y_0 + Σ_{c<n} z_c y_{d-c}` -/
theorem imul_inner [Field K] (y : List K) (d : Nat) : ∀ (n : Nat) (z1 : List K), n ≤ d → d < z1.length →
    let r := (List.range n).foldl (fun zz c => zz.set d (co zz d + co zz c * co y (d-c))) z1
    r.length = z1.length ∧ (∀ i, i ≠ d → co r i = co z1 i) ∧
      co r d = co z1 d + ∑ c ∈ range n, co z1 c * co y (d-c) := by
  intro n
  induction n with
  | zero => intro z1 _ _; simp
  | succ n ih =>
    intro z1 hn hd
    rw [List.range_succ, List.foldl_append, List.foldl_cons, List.foldl_nil]
    obtain ⟨h1, h2, h3⟩ := ih z1 (by omega) hd
    refine ⟨by simp [h1], ?_, ?_⟩
    · intro i hi
      rw [co_set_ne hi]
      exact h2 i hi
    · rw [co_set_eq _ _ _ (by rw [h1]; exact hd), h3, h2 n (by omega), sum_range_succ]
      ring

theorem imulStep_spec [Field K] (y z : List K) (d : Nat) (hd : d < z.length) :
    (imulStep y z d).length = z.length ∧ (∀ i, i ≠ d → co (imulStep y z d) i = co z i) ∧
      co (imulStep y z d) d = sumRange 0 (d+1) fun c => co z c * co y (d-c) := by
  unfold imulStep
  simp only [sumRange_eq, Nat.sub_zero, Nat.zero_add]
  obtain ⟨h1, h2, h3⟩ := imul_inner y d d (z.set d (co z d * co y 0)) (le_refl _) (by simpa using hd)
  refine ⟨by rw [h1]; simp, ?_, ?_⟩
  · intro i hi
    rw [h2 i hi, co_set_ne hi]
  · rw [h3, co_set_eq _ _ _ hd, sum_range_succ, Nat.sub_self]
    have : ∑ c ∈ range d, co (z.set d (co z d * co y 0)) c * co y (d - c) = ∑ c ∈ range d, co z c * co y (d - c) := by
      apply sum_congr rfl
      intro c hc
      have := mem_range.mp hc
      rw [co_set_ne (by omega)]
    rw [this]
    ring

end
end AV
