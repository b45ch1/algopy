import AlgopyVerif.Proofs.Taylor
/-!
# Jets: Taylor coefficients of a composite depend only on the Taylor coefficients of the inner map

`tc_comp_congr`: if two smooth germs `X`, `G` at 0 have the same Taylor coefficients up to order
`n`, then so have `f ∘ X` and `f ∘ G` for every `f` smooth at `X 0`.  (Elementary proof by
induction on the order, for all `f` simultaneously, via `(f ∘ X)' = (f' ∘ X) · X'` and Leibniz.)

`JetOf x X`: the list `x` holds the first `x.length` Taylor coefficients of the smooth germ `X`.  Every kernel
theorem has the form `JetOf x X → JetOf (K x) (g ∘ X)`, which is what makes the theorems compose; the statement about
the input curve is the instance `jetOf_curve`.
-/
open Polynomial Filter Topology
open scoped ContDiff

namespace AV

theorem tc_comp_congr {X G : ℝ → ℝ} (hX : Smooth0 X) (hG : Smooth0 G) (n : ℕ)
    (h : ∀ k, k ≤ n → tc X k = tc G k) :
    ∀ d, d ≤ n → ∀ f : ℝ → ℝ, ContDiffAt ℝ ∞ f (X 0) →
      tc (fun t => f (X t)) d = tc (fun t => f (G t)) d := by
  have h0 : X 0 = G 0 := by simpa [tc_zero] using h 0 (Nat.zero_le n)
  intro d
  induction d using Nat.strong_induction_on with
  | _ d ih =>
    intro hd f hf
    cases d with
    | zero => rw [tc_zero, tc_zero, h0]
    | succ d =>
      have hne : ((d + 1 : ℕ) : ℝ) ≠ 0 := by exact_mod_cast Nat.succ_ne_zero d
      have hfG : ContDiffAt ℝ ∞ f (G 0) := h0 ▸ hf
      apply mul_left_cancel₀ hne
      rw [← tc_deriv, ← tc_deriv, tc_congr (deriv_comp_eventually hX hf),
        tc_congr (deriv_comp_eventually hG hfG),
        tc_mul_at hX.deriv (smooth0_comp hX (contDiffAt_deriv_of hf)),
        tc_mul_at hG.deriv (smooth0_comp hG (contDiffAt_deriv_of hfG))]
      apply Finset.sum_congr rfl
      intro i hi
      have hi' : i < d + 1 := Finset.mem_range.mp hi
      rw [ih (d - i) (by omega) (by omega) (deriv f) (contDiffAt_deriv_of hf), tc_deriv, tc_deriv,
        h (i + 1) (by omega)]

structure JetOf (x : List ℝ) (X : ℝ → ℝ) : Prop where
  smooth : Smooth0 X
  coeff : ∀ k, k < x.length → co x k = tc X k

theorem jetOf_curve (x : List ℝ) : JetOf x (curve x) :=
  ⟨smooth0_curve x, fun k _ => (tc_curve x k).symm⟩

theorem JetOf.zero {x : List ℝ} {X : ℝ → ℝ} (h : JetOf x X) (hl : 0 < x.length) : co x 0 = X 0 := by
  rw [h.coeff 0 hl, tc_zero]

theorem JetOf.of_eq_map_range {y : List ℝ} {Y : ℝ → ℝ} (hY : Smooth0 Y) {n : ℕ}
    (h : y = (List.range n).map (tc Y)) : JetOf y Y :=
  ⟨hY, fun k hk => by subst h; exact co_map_range (by simpa using hk)⟩

/-- the form in which the coupled kernels (`(build step n).unzip`) are met -/
theorem JetOf.pair_of_eq_map_range {l : List (ℝ × ℝ)} {Y Z : ℝ → ℝ} (hY : Smooth0 Y) (hZ : Smooth0 Z) {n : ℕ}
    (h : l = (List.range n).map fun k => (tc Y k, tc Z k)) : JetOf l.unzip.1 Y ∧ JetOf l.unzip.2 Z := by
  subst h
  exact ⟨.of_eq_map_range hY (n := n) (by simp [List.unzip_eq_map, Function.comp_def]),
    .of_eq_map_range hZ (n := n) (by simp [List.unzip_eq_map, Function.comp_def])⟩

theorem JetOf.congr {x : List ℝ} {X Y : ℝ → ℝ} (hx : JetOf x X) (h : Y =ᶠ[𝓝 0] X) : JetOf x Y :=
  ⟨hx.smooth.congr_of_eventuallyEq h, fun k hk => by rw [hx.coeff k hk, tc_congr h]⟩

theorem JetOf.of_eq {x : List ℝ} {X Y : ℝ → ℝ} (hx : JetOf x X) (h : ∀ t, Y t = X t) : JetOf x Y :=
  hx.congr (.of_forall h)

theorem JetOf.of_co_eq {x y : List ℝ} {X : ℝ → ℝ} (hx : JetOf x X) (hl : y.length = x.length)
    (h : ∀ k, k < x.length → co y k = co x k) : JetOf y X :=
  ⟨hx.smooth, fun k hk => by rw [h k (hl ▸ hk), hx.coeff k (hl ▸ hk)]⟩

theorem JetOf.co_eq {x y : List ℝ} {X : ℝ → ℝ} (hx : JetOf x X) (hy : JetOf y X) {d : ℕ}
    (h1 : d < x.length) (h2 : d < y.length) : co x d = co y d := by
  rw [hx.coeff d h1, hy.coeff d h2]

theorem JetOf.take {x : List ℝ} {X : ℝ → ℝ} (hx : JetOf x X) (m : ℕ) : JetOf (x.take m) X :=
  ⟨hx.smooth, fun k hk => by
    have hk' : k < m ∧ k < x.length := by simpa [List.length_take] using hk
    rw [co_take x m k hk'.1, hx.coeff k hk'.2]⟩

theorem jetOf_const (c : ℝ) (n : ℕ) : JetOf (constS c n) (fun _ => c) :=
  ⟨contDiffAt_const, fun k hk => by
    unfold constS at hk ⊢
    rw [co_map_range (by simpa using hk), tc_const]⟩

theorem JetOf.add {x y : List ℝ} {X Y : ℝ → ℝ} (hx : JetOf x X) (hy : JetOf y Y) (hl : y.length = x.length) :
    JetOf (addS x y) (X + Y) :=
  ⟨ContDiffAt.add hx.smooth hy.smooth, fun k hk => by
    have hk' : k < x.length := by simpa using hk
    rw [tc_add hx.smooth hy.smooth, ← hx.coeff k hk', ← hy.coeff k (hl ▸ hk'), addS, co_map_range hk']⟩

theorem JetOf.sub {x y : List ℝ} {X Y : ℝ → ℝ} (hx : JetOf x X) (hy : JetOf y Y) (hl : y.length = x.length) :
    JetOf (subS x y) (X - Y) :=
  ⟨ContDiffAt.sub hx.smooth hy.smooth, fun k hk => by
    have hk' : k < x.length := by simpa using hk
    rw [tc_sub hx.smooth hy.smooth, ← hx.coeff k hk', ← hy.coeff k (hl ▸ hk'), subS, co_map_range hk']⟩

/-- of the second factor only the coefficients below `x.length` are read -/
theorem mulS_jet {x y : List ℝ} {X Y : ℝ → ℝ} (hx : JetOf x X) (hY : Smooth0 Y)
    (hy : ∀ k, k < x.length → co y k = tc Y k) : JetOf (mulS x y) (X * Y) :=
  ⟨ContDiffAt.mul hx.smooth hY, fun k hk => by
    have hk' : k < x.length := by simpa using hk
    rw [mulS_co x y k hk', tc_mul_at hx.smooth hY]
    refine Finset.sum_congr rfl fun i hi => ?_
    have := Finset.mem_range.mp hi
    rw [hx.coeff i (by omega), hy (k - i) (by omega)]⟩

theorem JetOf.mul {x y : List ℝ} {X Y : ℝ → ℝ} (hx : JetOf x X) (hy : JetOf y Y) (hl : y.length = x.length) :
    JetOf (mulS x y) (X * Y) :=
  mulS_jet hx hy.smooth fun k hk => hy.coeff k (hl ▸ hk)

theorem JetOf.neg {x : List ℝ} {X : ℝ → ℝ} (hx : JetOf x X) : JetOf (negS x) (-X) :=
  ⟨hx.smooth.neg, fun k hk => by
    have hk' : k < x.length := by simpa using hk
    rw [tc_neg, ← hx.coeff k hk', negS, co_map _ _ _ hk']⟩

theorem JetOf.scale {x : List ℝ} {X : ℝ → ℝ} (c : ℝ) (hx : JetOf x X) : JetOf (scaleS c x) (fun t => c * X t) :=
  ⟨contDiffAt_const.mul hx.smooth, fun k hk => by
    have hk' : k < x.length := by simpa using hk
    rw [tc_const_mul, ← hx.coeff k hk', scaleS, co_map _ _ _ hk']⟩

theorem JetOf.plusConst {x : List ℝ} {X : ℝ → ℝ} (c : ℝ) (hx : JetOf x X) :
    JetOf (plusConstS x c) (fun t => X t + c) :=
  ⟨hx.smooth.add contDiffAt_const, fun k hk => by
    have hk' : k < x.length := by simpa using hk
    have hc : Smooth0 (fun _ : ℝ => c) := contDiffAt_const
    rw [show (fun t => X t + c) = X + fun _ => c from rfl, tc_add hx.smooth hc, tc_const,
      plusConstS, co_map_range hk']
    split_ifs with h0
    · rw [h0, hx.coeff 0 (h0 ▸ hk')]
    · rw [add_zero, hx.coeff k hk']⟩

theorem JetOf.square {x : List ℝ} {X : ℝ → ℝ} (hx : JetOf x X) : JetOf (squareS x) (X * X) := by
  rw [squareS_eq_mulS]
  exact hx.mul hx rfl

end AV
