import AlgopyVerif.Props.C15
/-! the entries of the Γ-identity table that only the thorough tier compares with the implementation -/
open AV.Interp
namespace AV.C15Big
theorem Gamma_identity_4_4 : checkIdentity 4 4 = true := C15.Gamma_identity_every_N_d 4 4 (by decide) (by decide)
theorem Gamma_identity_3_5 : checkIdentity 3 5 = true := C15.Gamma_identity_every_N_d 3 5 (by decide) (by decide)
theorem Gamma_identity_5_3 : checkIdentity 5 3 = true := C15.Gamma_identity_every_N_d 5 3 (by decide) (by decide)
end AV.C15Big
