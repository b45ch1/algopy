import AlgopyVerif.Proofs.Jet
import AlgopyVerif.Proofs.Kernels
import AlgopyVerif.Proofs.PowerSeries
import AlgopyVerif.Proofs.Dtype
import AlgopyVerif.Proofs.Lift
import AlgopyVerif.Proofs.Power
/-!
# C02 — arithmetic is exact truncated power-series arithmetic

* `mulS` is the Cauchy product in `K⟦X⟧` modulo `X^D`; `divS` is the unique solution of
  `z · y ≡ x`; the ring laws of `R[t]/(t^D)` (commutativity, associativity,
  distributivity, `(x/y)·y = x`) hold for the model, over every field.
* over ℝ the coefficients are the Taylor coefficients of the product / quotient curve.
* dtype calculus: for every (operator × operand kind × order) the result is complex exactly when an operand is
  (`resultDT_eq_c128`, `Proofs/Dtype.lean`).
* operator level (`utpm_mul_value`, `utpm_div_value`, `utpm_add_sub_value`): for two UTPM arrays of shapes
  `(D,P)+sx`, `(D,P)+sy` that broadcast to `(D,P)+s`, coefficient `d` of the result at direction `p`, element
  `idx` is the `d`-th Taylor coefficient of the product / quotient / sum of the two operand curves at the
  NumPy-broadcast positions `bidx sx idx`, `bidx sy idx`.
* `utpm_scalar_mul_div_value`, `utpm_scalar_add_sub_value`: the same for a scalar right operand (`x*r`, `x/r`, `x+r`, `x-r`).
* `utpm_ndarray_mul_div_value`, `utpm_ndarray_add_sub_value`: the same for a plain-array right operand, broadcast NumPy-style
  against the coefficient shape (`mulConstArr`, `addConstArr`).

The reflected forms use the same model functions; `c / x` is `rdivConst` (`Model/Utpm.lean`), tied to the code by the C02
correspondence run (no operator-level theorem).
-/
open PowerSeries Finset AV

namespace AV.C02
section
variable {K : Type} [Field K]

/-- `*` computes the Cauchy product modulo `t^D` -/
theorem mul_is_cauchy_product (x y : List K) (d : ℕ) (h : d < x.length) :
    co (mulS x y) d = coeff d (toPS x * toPS y) := mulS_cauchy x y d h

/-- `/` : `(x / y) · y ≡ x` modulo `t^D` -/
theorem div_spec (x y : List K) (hy : co y 0 ≠ 0) (d : ℕ) (h : d < x.length) :
    coeff d (toPS (divS x y) * toPS y) = co x d := by
  rw [coeff_mul_range]
  simpa using divS_mul x y hy d h

theorem div_unique (x y z : List K) (hy : co y 0 ≠ 0) (hz : z.length = x.length)
    (h : ∀ d, d < x.length → ∑ k ∈ range (d+1), co z k * co y (d-k) = co x d) : z = divS x y :=
  divS_unique x y z hy hz h

theorem mul_comm (x y : List K) (hl : x.length = y.length) : mulS x y = mulS y x := by
  refine list_ext_co (by simp [hl]) fun d hd => ?_
  rw [mulS_length] at hd
  rw [mulS_cauchy x y d hd, mulS_cauchy y x d (hl ▸ hd), _root_.mul_comm]

theorem mul_assoc (x y z : List K) (hy : x.length = y.length) :
    mulS (mulS x y) z = mulS x (mulS y z) := mulS_assoc x y z hy

theorem mul_add (x y z : List K) (hy : x.length = y.length) :
    mulS x (addS y z) = addS (mulS x y) (mulS x z) := by
  refine list_ext_co (by simp) fun d hd => ?_
  rw [mulS_length] at hd
  rw [mulS_co _ _ d hd, addS_co _ _ d (by simpa using hd), mulS_co _ _ d hd, mulS_co _ _ d hd, ← sum_add_distrib]
  refine sum_congr rfl fun k hk => ?_
  rw [addS_co y z (d-k) (by have := mem_range.mp hk; omega), _root_.mul_add]

theorem div_mul_cancel (x y : List K) (hy : co y 0 ≠ 0) : mulS (divS x y) y = x := divS_mulS_cancel x y hy

/-- `+`, `-` are coefficient-wise -/
theorem add_coeff (x y : List K) (d : ℕ) (h : d < x.length) : co (addS x y) d = co x d + co y d := addS_co x y d h
theorem sub_coeff (x y : List K) (d : ℕ) (h : d < x.length) : co (subS x y) d = co x d - co y d := subS_co x y d h
end

/-! ## analytic statements over ℝ -/
theorem mul_taylor (x y : List ℝ) (d : ℕ) (hd : d < x.length) :
    co (mulS x y) d = tc (curve x * curve y) d := AV.mul_taylor x y d hd

theorem div_taylor (x y : List ℝ) (hy : co y 0 ≠ 0) (d : ℕ) (hd : d < x.length) :
    co (divS x y) d = tc (fun t => curve x t / curve y t) d := AV.div_taylor x y hy d hd

/-- `x ** r` with `r` an ndarray of non-negative integers, at one entry of the array (exponent `r`; the loop runs up to the
largest exponent `m ≥ r` of the array): every base point, zero included — the masked products never divide —, i.e. what
the Python-int exponent gives (`C01.pownat_taylor`) -/
theorem pow_int_array_entry (x : List ℝ) (r m : ℕ) (h : r ≤ m) (d : ℕ) (hd : d < x.length) :
    co (powMaskS r m x) d = tc (fun t => curve x t ^ r) d := by
  have hj := (jetOf_curve x).powMask r m
  rw [Nat.min_eq_left h] at hj
  exact hj.1.coeff d (by rw [hj.2]; exact hd)

/-- `x ** r` for a large integer exponent (`r > 64`, also Python ints beyond 64 bits): square and multiply, `O(log r)`
products, every base point (no division) -/
theorem pow_large_int_exponent (x : List ℝ) (r : ℕ) (d : ℕ) (hd : d < x.length) :
    co (powBinS r x) d = tc (fun t => curve x t ^ r) d := by
  have hj := (jetOf_curve x).powbin r
  exact hj.1.coeff d (by rw [hj.2]; exact hd)

/-- non-vacuity: `(1 + t)^{100}` by square and multiply: `1 + 100 t + 4950 t²` -/
example : powBinS 100 ([1, 1, 0] : List ℚ) = [1, 100, 4950] := by decide +kernel

/-- non-vacuity: a zero base point, exponent 2 inside an array whose largest exponent is 3: `(3t + t²)² = 9t² (+ …)` -/
example : powMaskS 2 3 ([0, 3, 1] : List ℚ) = [0, 0, 9] := by decide +kernel

/-! ## operator level -/
section
open NdArray
attribute [local instance] inh0

/-- the operand series that feeds result element `(p, idx)` -/
noncomputable def opSeries (x : NdArray ℝ) (D p : ℕ) (sx idx : List ℕ) : List ℝ :=
  (List.range D).map fun d => x.get (d :: p :: bidx sx idx)

theorem opSeries_length (x : NdArray ℝ) (D p : ℕ) (sx idx : List ℕ) : (opSeries x D p sx idx).length = D := by
  simp [opSeries]

theorem utpm_mul_value (x y z : NdArray ℝ) (D P : ℕ) (sx sy s : List ℕ)
    (hx : x.shape = D :: P :: sx) (hy : y.shape = D :: P :: sy) (hs : broadcastShapes sx sy = some s)
    (hz : utBin "mul" x y = some z) (p : ℕ) (idx : List ℕ) (hp : p < P) (h : ValidIdx s idx) (d : ℕ) (hd : d < D) :
    co (seriesAt z p idx) d = tc (curve (opSeries x D p sx idx) * curve (opSeries y D p sy idx)) d := by
  rw [zipS2_co mulS hx hy hs hz hp h hd]
  exact AV.mul_taylor (opSeries x D p sx idx) _ d (by rwa [opSeries_length])

theorem utpm_div_value (x y z : NdArray ℝ) (D P : ℕ) (sx sy s : List ℕ)
    (hx : x.shape = D :: P :: sx) (hy : y.shape = D :: P :: sy) (hs : broadcastShapes sx sy = some s)
    (hz : utBin "div" x y = some z) (p : ℕ) (idx : List ℕ) (hp : p < P) (h : ValidIdx s idx) (d : ℕ) (hd : d < D)
    (hy0 : co (opSeries y D p sy idx) 0 ≠ 0) :
    co (seriesAt z p idx) d = tc (fun t => curve (opSeries x D p sx idx) t / curve (opSeries y D p sy idx) t) d := by
  rw [zipS2_co divS hx hy hs hz hp h hd]
  exact AV.div_taylor (opSeries x D p sx idx) _ hy0 d (by rwa [opSeries_length])

theorem utpm_add_sub_value (x y z w : NdArray ℝ) (D P : ℕ) (sx sy s : List ℕ)
    (hx : x.shape = D :: P :: sx) (hy : y.shape = D :: P :: sy) (hs : broadcastShapes sx sy = some s)
    (hz : utBin "add" x y = some z) (hw : utBin "sub" x y = some w)
    (p : ℕ) (idx : List ℕ) (hp : p < P) (h : ValidIdx s idx) (d : ℕ) (hd : d < D) :
    co (seriesAt z p idx) d = x.get (d :: p :: bidx sx idx) + y.get (d :: p :: bidx sy idx)
    ∧ co (seriesAt w p idx) d = x.get (d :: p :: bidx sx idx) - y.get (d :: p :: bidx sy idx) := by
  have hl : d < ((List.range D).map fun d => x.get (d :: p :: bidx sx idx)).length := by
    rwa [List.length_map, List.length_range]
  rw [zipS2_co addS hx hy hs hz hp h hd, zipS2_co subS hx hy hs hw hp h hd, addS_co _ _ d hl, subS_co _ _ d hl,
    co_map_range hd, co_map_range hd]
  exact ⟨rfl, rfl⟩

theorem utpm_scalar_mul_div_value (x : NdArray ℝ) (r : ℝ) (D P : ℕ) (s : List ℕ) (hx : x.shape = D :: P :: s)
    (p : ℕ) (idx : List ℕ) (hp : p < P) (h : ValidIdx s idx) (d : ℕ) (hd : d < D) :
    co (seriesAt (scalarOp "mul" x r) p idx) d = tc (fun t => r * curve (seriesAt x p idx) t) d
    ∧ co (seriesAt (scalarOp "div" x r) p idx) d = tc (fun t => r⁻¹ * curve (seriesAt x p idx) t) d := by
  rw [tc_const_mul, tc_const_mul, tc_curve, co_seriesAt hx p idx hd, scalarOp, scalarOp, hx,
    co_seriesAt_ofFn _ hp h hd, co_seriesAt_ofFn _ hp h hd]
  exact ⟨_root_.mul_comm _ _, (div_eq_mul_inv _ _).trans (_root_.mul_comm _ _)⟩

theorem utpm_scalar_add_sub_value (x : NdArray ℝ) (r : ℝ) (D P : ℕ) (s : List ℕ) (hx : x.shape = D :: P :: s)
    (p : ℕ) (idx : List ℕ) (hp : p < P) (h : ValidIdx s idx) (d : ℕ) (hd : d < D) :
    co (seriesAt (scalarOp "add" x r) p idx) d = tc (fun t => curve (seriesAt x p idx) t + r) d
    ∧ co (seriesAt (scalarOp "sub" x r) p idx) d = tc (fun t => curve (seriesAt x p idx) t - r) d := by
  rw [tc_curve_add_const, tc_curve_sub_const, co_seriesAt hx p idx hd, scalarOp, scalarOp, hx,
    co_seriesAt_ofFn _ hp h hd, co_seriesAt_ofFn _ hp h hd]
  exact ⟨rfl, rfl⟩

theorem utpm_ndarray_mul_div_value (x c z w : NdArray ℝ) (D P : ℕ) (sx s : List ℕ)
    (hx : x.shape = D :: P :: sx) (hs : broadcastShapes sx c.shape = some s)
    (hz : mulConstArr false x c = some z) (hw : mulConstArr true x c = some w)
    (p : ℕ) (idx : List ℕ) (hp : p < P) (h : ValidIdx s idx) (d : ℕ) (hd : d < D) :
    co (seriesAt z p idx) d
        = tc (fun t => c.get (bidx c.shape idx) * curve ((List.range D).map fun k => x.get (k :: p :: bidx sx idx)) t) d
    ∧ co (seriesAt w p idx) d
        = tc (fun t => (c.get (bidx c.shape idx))⁻¹ * curve ((List.range D).map fun k => x.get (k :: p :: bidx sx idx)) t) d := by
  rw [co_seriesAt_mulConstArr hx hs hz hp h hd, co_seriesAt_mulConstArr hx hs hw hp h hd, tc_const_mul, tc_const_mul, tc_curve,
    co_map_range hd]
  exact ⟨_root_.mul_comm _ _, (div_eq_mul_inv _ _).trans (_root_.mul_comm _ _)⟩

theorem utpm_ndarray_add_sub_value (x c z w : NdArray ℝ) (D P : ℕ) (sx s : List ℕ)
    (hx : x.shape = D :: P :: sx) (hs : broadcastShapes sx c.shape = some s)
    (hz : addConstArr false x c = some z) (hw : addConstArr true x c = some w)
    (p : ℕ) (idx : List ℕ) (hp : p < P) (h : ValidIdx s idx) (d : ℕ) (hd : d < D) :
    co (seriesAt z p idx) d
        = tc (fun t => curve ((List.range D).map fun k => x.get (k :: p :: bidx sx idx)) t + c.get (bidx c.shape idx)) d
    ∧ co (seriesAt w p idx) d
        = tc (fun t => curve ((List.range D).map fun k => x.get (k :: p :: bidx sx idx)) t - c.get (bidx c.shape idx)) d := by
  rw [co_seriesAt_addConstArr hx hs hz hp h hd, co_seriesAt_addConstArr hx hs hw hp h hd, tc_curve_add_const, tc_curve_sub_const,
    co_map_range hd]
  exact ⟨rfl, rfl⟩
end

/-! ## dtype calculus -/

/-- combining real with complex operands never drops the imaginary part -/
theorem complex_in_complex_out :
    ∀ (op : AOp) (self : DT) (k : OKind) (refl : Bool),
      (self = .c128 ∨ k.isComplex = true) → resultDT op self k refl = .c128 :=
  fun op self k refl => (resultDT_eq_c128 op self k refl).mpr

/-- real operands give a real result (no spurious complex) -/
theorem real_in_real_out :
    ∀ (op : AOp) (self : DT) (k : OKind) (refl : Bool),
      self ≠ .c128 → k.isComplex = false → resultDT op self k refl ≠ .c128 := by
  intro op self k refl hs hk h
  rcases (resultDT_eq_c128 op self k refl).mp h with h | h
  · exact hs h
  · rw [hk] at h; cases h

example : mulS [(2:ℚ), 3, 5] [2, 3, 5] = [4, 12, 29] := by decide +kernel
example : divS [(4:ℚ), 12, 29] [2, 3, 5] = [2, 3, 5] := by decide +kernel

end AV.C02
