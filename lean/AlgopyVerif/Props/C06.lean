import AlgopyVerif.Proofs.Tracer
import Mathlib.Logic.Function.Iterate
/-!
# C06 — results are independent of call history

State kept between calls on a recorded graph: the forward values of all nodes (a heap of cells), the
contents saved by in-place writes, and the adjoint buffers.  On the repaired code

* adjoints are re-initialised at the start of every sweep and the sweep is a *function* of
  (tape, forward values, seed) — `Proofs/Tape.lean: rev`;
* the forward values are left intact by a sweep: the restores of the reverse sweep, fed with the
  contents saved **on this evaluation**, bring the buffers back to their initial state
  (`restores_reach_initial_state`) and the writes are re-applied afterwards
  (`sweep_preserves_forward_values`), so any number of sweeps after one forward evaluation see the
  same values (`repeated_sweeps`) and hence return the same adjoints.

The two defects this repairs are kept as counterexample theorems about the model of the old
behaviour: `stale_store_counterexample` (contents saved while recording, used after a re-evaluation)
and `no_reapply_counterexample` (buffers left rolled back after a sweep).

* graphs with **constant work arrays** updated in place (no recorded node re-creates their storage): the repaired
  `CGraph.pushforward` undoes the previous evaluation's writes first; `workarray_history_independent`: after any history the
  evaluation is the one from the recorded heap (writes with arbitrary update functions, so accumulation is covered);
  `workarray_counterexample`: the old behaviour on `acc += x`.  The executable instance `accHistory` is compared with the
  implementation's sequence of values by the C06 run.

That no pullback kernel writes into a forward value (e.g. the old `_pb_tansec`) is checked on the
implementation by node-value snapshots around `cg.pullback` in the C06 run (partial: no theorem).
-/
open AV.Tracer
namespace AV.C06
variable {V : Type}

theorem restores_reach_initial_state (ws : List (Nat × Nat)) (h : Heap V) :
    undoAll (ws.zip (saved ws h)) (wfwd ws h) = h := by
  induction ws generalizing h with
  | nil => rfl
  | cons w ws ih =>
    obtain ⟨d, s⟩ := w
    simp only [saved, wfwd, List.zip_cons_cons, undoAll]
    rw [ih (upd h d (h s))]
    exact upd_upd_self h d (h s)

theorem sweep_preserves_forward_values (ws : List (Nat × Nat)) (h : Heap V) :
    sweepValues ws (saved ws h) (wfwd ws h) = wfwd ws h := by
  unfold sweepValues
  rw [restores_reach_initial_state]

theorem repeated_sweeps (ws : List (Nat × Nat)) (h : Heap V) (k : Nat) :
    (fun H => sweepValues ws (saved ws h) H)^[k] (wfwd ws h) = wfwd ws h :=
  Function.iterate_fixed (sweep_preserves_forward_values ws h) k

/-- contents saved at recording time (heap `[7,7]`), graph re-evaluated at `[1,2]`, one write
`cell0 := cell1`: the restore puts `7` where `1` belongs -/
theorem stale_store_counterexample :
    undoAll ([(0, 1)].zip (saved [(0, 1)] (fun _ => (7:Nat)))) (wfwd [(0, 1)] (fun i => if i = 0 then 1 else 2)) 0 ≠
      (fun i => if i = 0 then 1 else 2 : Heap Nat) 0 := by
  decide

/-- without re-applying the writes the forward value of the written cell is lost after one sweep -/
theorem no_reapply_counterexample :
    undoAll ([(0, 1)].zip (saved [(0, 1)] (fun i => if i = 0 then 1 else 2 : Heap Nat)))
        (wfwd [(0, 1)] (fun i => if i = 0 then 1 else 2)) 0
      ≠ wfwd [(0, 1)] (fun i => if i = 0 then 1 else 2 : Heap Nat) 0 := by
  decide

/-! ### graphs with constant work arrays (`acc = Function(UTPM(zeros)); acc += x; …`) -/

theorem workarray_history_independent (ws : List (GWrite V)) (h0 : Heap V) (first : List (Nat × V))
    (hist : List (List (Nat × V))) (ins : List (Nat × V))
    (hc : ∀ a b, a ∈ (first :: hist) ++ [ins] → b ∈ (first :: hist) ++ [ins] → InputsCover a b) :
    evalUndo ws (hist.foldl (evalUndo ws) (evalState ws h0 first)) ins = evalState ws h0 ins := by
  -- each evaluation turns the fresh state of the previous inputs into the fresh state of its own
  induction hist generalizing first with
  | nil => exact evalUndo_fresh ws h0 first ins (hc ins first (by simp) (by simp))
  | cons x xs ih =>
    rw [List.foldl_cons, evalUndo_fresh ws h0 first x (hc x first (by simp) (by simp))]
    exact ih x fun a b ha hb => hc a b (List.mem_cons_of_mem _ ha) (List.mem_cons_of_mem _ hb)

/-- non-vacuity of the hypothesis: two evaluations that set the same input cell cover each other -/
example : InputsCover [(1, (5 : Nat))] [(1, 7)] := by
  intro h; funext i; simp only [setIn, List.foldl_cons, List.foldl_nil, upd]; split <;> rfl

/-- the old behaviour on `acc += x` (cells: 0 = acc, 1 = x; recorded with x = 1 from acc = 0): the second evaluation at the
same input returns 3 instead of 1; with the undo both return 1 -/
theorem workarray_counterexample :
    accHistory false [(0, 1)] [0, 0] [(1, 1)] [[(1, 1)], [(1, 1)]] 0 = [2, 3] ∧
    accHistory true [(0, 1)] [0, 0] [(1, 1)] [[(1, 1)], [(1, 1)]] 0 = [1, 1] := by
  decide +kernel

end AV.C06
