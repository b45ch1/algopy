import AlgopyVerif.Proofs.Power
import AlgopyVerif.Proofs.Compose
import AlgopyVerif.Proofs.Kinks
import AlgopyVerif.Proofs.Faa
import AlgopyVerif.Proofs.SpecialFns
import AlgopyVerif.Proofs.Ode
import AlgopyVerif.Proofs.Lift
/-!
# C01 — elementary functions return the Taylor coefficients of `f(x(t))`

`x : List ℝ` is the input series (length `D`), `curve x` the polynomial curve `x̂(t) = Σ x_k t^k`, `tc g d = g⁽ᵈ⁾(0)/d!`.
`curve x 0 = co x 0` (`curve_zero`) moves between the base point of the germ and of the list.
The literal property, for every `D`, every input and every `d < D` (*analytic layer*):

    co (expS (exp x₀) x) d = tc (fun t => exp (x̂ t)) d          … and so on.

The *formal layer* gives, over any field of characteristic 0 (real and complex coefficients), the defining convolution
identity of each recurrence.

Analytic layer: exp, expm1, log, log1p, sqrt, reciprocal, real / negative-integer / natural powers, sin, cos, tan, sinh,
cosh, tanh, arctan, arcsin, arccos, logit, expit, erf and erfi (for any antiderivative of `c·exp(∓y²)` — Mathlib has no
`erf`), each with the base values the code uses (`1/cos²x₀`, `1-tanh²x₀`, `1+x₀²`, `cos(arcsin x₀)`, `-sin(arccos x₀)`, …);
absolute, sign, `botched_clip` away from their kinks, minimum / maximum for `x₀ < y₀`; `_eval_slow_generic` (gammaln, psi,
polygamma, hyperu) for every smooth `f` whose derivative leaves are `f⁽ᵈ⁾(x₀)`; `_dawsn` for every `F` with `F' = 1 - 2yF`
(through `_taylor_polynomials_of_ode_solutions`, proved for every system `b(u)v' - a(u)v = c(u)`: `ode_jet`).
Each is the instance at the input curve of a statement about the jet of any smooth germ (`JetOf`), so the kernels compose
(`jet_exp_sin_mul`).  Formal layer: exp, log, sqrt, sin/cos, reciprocal (mul/div in C02).
Not proved: analytic statements for complex coefficients (the formal layer and the correspondence run cover them).
-/
open AV
open scoped ContDiff

namespace AV.C01

/-! ## analytic layer (the literal property) -/

/-- `UTPM.exp`: coefficient `d` of the model equals `(1/d!) dᵈ/dtᵈ exp(x(t))|₀` -/
theorem exp_taylor (x : List ℝ) (d : ℕ) (hd : d < x.length) :
    co (expS (Real.exp (co x 0)) x) d = tc (fun t => Real.exp (curve x t)) d :=
  curve_zero x ▸ (jetOf_curve x).exp.coeff d (by simpa using hd)

theorem sin_taylor (x : List ℝ) (d : ℕ) (hd : d < x.length) :
    co (sincosS (Real.sin (co x 0)) (Real.cos (co x 0)) x).1 d = tc (fun t => Real.sin (curve x t)) d :=
  curve_zero x ▸ (jetOf_curve x).sin.coeff d (by simpa using hd)

theorem cos_taylor (x : List ℝ) (d : ℕ) (hd : d < x.length) :
    co (sincosS (Real.sin (co x 0)) (Real.cos (co x 0)) x).2 d = tc (fun t => Real.cos (curve x t)) d :=
  curve_zero x ▸ (jetOf_curve x).cos.coeff d (by simpa using hd)

/-- domain of smoothness of `log`: `x₀ ≠ 0` (NumPy's real `log` needs `x₀ > 0`) -/
theorem log_taylor (x : List ℝ) (hx : co x 0 ≠ 0) (d : ℕ) (hd : d < x.length) :
    co (logS (Real.log (co x 0)) x) d = tc (fun t => Real.log (curve x t)) d := by
  rw [← curve_zero x] at hx ⊢
  exact ((jetOf_curve x).log hx).coeff d (by simpa using hd)

theorem sqrt_taylor (x : List ℝ) (hx : 0 < co x 0) (d : ℕ) (hd : d < x.length) :
    co (sqrtS (Real.sqrt (co x 0)) x) d = tc (fun t => Real.sqrt (curve x t)) d := by
  rw [← curve_zero x] at hx ⊢
  exact ((jetOf_curve x).sqrt hx).coeff d (by simpa using hd)

theorem reciprocal_taylor (x : List ℝ) (hx : co x 0 ≠ 0) (d : ℕ) (hd : d < x.length) :
    co (recipS x) d = tc (fun t => (curve x t)⁻¹) d :=
  ((jetOf_curve x).recip (by rwa [curve_zero])).coeff d (by simpa using hd)

theorem sinh_taylor (x : List ℝ) (d : ℕ) (hd : d < x.length) :
    co (sinhcoshS (Real.sinh (co x 0)) (Real.cosh (co x 0)) x).1 d = tc (fun t => Real.sinh (curve x t)) d :=
  curve_zero x ▸ (jetOf_curve x).sinh.coeff d (by simpa using hd)

theorem cosh_taylor (x : List ℝ) (d : ℕ) (hd : d < x.length) :
    co (sinhcoshS (Real.sinh (co x 0)) (Real.cosh (co x 0)) x).2 d = tc (fun t => Real.cosh (curve x t)) d :=
  curve_zero x ▸ (jetOf_curve x).cosh.coeff d (by simpa using hd)

/-- domain of smoothness of `tan`: `cos x₀ ≠ 0`; the second output is `sec² = 1 + tan²` -/
theorem tan_taylor (x : List ℝ) (hx : Real.cos (co x 0) ≠ 0) (d : ℕ) (hd : d < x.length) :
    co (tansec2S (Real.tan (co x 0)) (1 / (Real.cos (co x 0) * Real.cos (co x 0))) x).1 d
      = tc (fun t => Real.tan (curve x t)) d := by
  rw [← curve_zero x] at hx ⊢
  exact ((jetOf_curve x).tan hx).coeff d (by simpa using hd)

theorem tanh_taylor (x : List ℝ) (d : ℕ) (hd : d < x.length) :
    co (tanhsech2S (Real.tanh (co x 0)) (1 - Real.tanh (co x 0) * Real.tanh (co x 0)) x).1 d
      = tc (fun t => Real.tanh (curve x t)) d :=
  curve_zero x ▸ (jetOf_curve x).tanh.coeff d (by simpa using hd)

theorem arctan_taylor (x : List ℝ) (d : ℕ) (hd : d < x.length) :
    co (arctanS (Real.arctan (co x 0)) x).1 d = tc (fun t => Real.arctan (curve x t)) d :=
  curve_zero x ▸ (jetOf_curve x).arctan.coeff d (by simpa using hd)

/-- domain of smoothness of `arcsin`/`arccos`: `-1 < x₀ < 1` -/
theorem arcsin_taylor (x : List ℝ) (h1 : -1 < co x 0) (h2 : co x 0 < 1) (d : ℕ) (hd : d < x.length) :
    co (arcsinS (Real.arcsin (co x 0)) (Real.cos (Real.arcsin (co x 0))) x).1 d
      = tc (fun t => Real.arcsin (curve x t)) d := by
  rw [← curve_zero x] at h1 h2 ⊢
  exact ((jetOf_curve x).arcsin h1 h2).coeff d (by simpa using hd)

theorem arccos_taylor (x : List ℝ) (h1 : -1 < co x 0) (h2 : co x 0 < 1) (d : ℕ) (hd : d < x.length) :
    co (arcsinS (Real.arccos (co x 0)) (-Real.sin (Real.arccos (co x 0))) x).1 d
      = tc (fun t => Real.arccos (curve x t)) d := by
  rw [← curve_zero x] at h1 h2 ⊢
  exact ((jetOf_curve x).arccos h1 h2).coeff d (by simpa using hd)

theorem expm1_taylor (x : List ℝ) (d : ℕ) (hd : d < x.length) :
    co (expm1S (Real.exp (co x 0)) (Real.exp (co x 0) - 1) x) d = tc (fun t => Real.exp (curve x t) - 1) d :=
  curve_zero x ▸ (jetOf_curve x).expm1.coeff d (by simpa [expm1S] using hd)

/-- domain of smoothness of `log1p`: `1 + x₀ ≠ 0` (NumPy's real `log1p` needs `x₀ > -1`) -/
theorem log1p_taylor (x : List ℝ) (hx : co x 0 + 1 ≠ 0) (d : ℕ) (hd : d < x.length) :
    co (log1pS (Real.log (co x 0 + 1)) x) d = tc (fun t => Real.log (curve x t + 1)) d := by
  rw [← curve_zero x] at hx ⊢
  exact ((jetOf_curve x).log1p hx).coeff d (by simpa [log1pS] using hd)

/-- `logit x = log x - log (1 - x)`, `x₀ ∉ {0, 1}` -/
theorem logit_taylor (x : List ℝ) (h0 : co x 0 ≠ 0) (h1 : 1 - co x 0 ≠ 0) (d : ℕ) (hd : d < x.length) :
    co (logitS (Real.log (co x 0) - Real.log (1 - co x 0)) x) d
      = tc (fun t => Real.log (curve x t) - Real.log (1 - curve x t)) d := by
  rw [← curve_zero x] at h0 h1 ⊢
  exact ((jetOf_curve x).logit h0 h1).coeff d (by simpa [logitS] using hd)

theorem expit_taylor (x : List ℝ) (d : ℕ) (hd : d < x.length) :
    co (expitS (Real.exp (co x 0)) ((1 + Real.exp (-(co x 0)))⁻¹) x) d
      = tc (fun t => (1 + Real.exp (-(curve x t)))⁻¹) d :=
  curve_zero x ▸ (jetOf_curve x).expit.coeff d (by simpa [expitS] using hd)

/-- `erf`: for every smooth `E` with `E'(y) = c · exp(-y²)` (so `E = erf` up to the leaf `E(x₀)`, `c = 2/√π`) -/
theorem erf_taylor (x : List ℝ) (c : ℝ) (E : ℝ → ℝ) (hE : ∀ y, HasDerivAt E (c * Real.exp (-(y * y))) y)
    (hEs : ContDiffAt ℝ ∞ E (co x 0)) (d : ℕ) (hd : d < x.length) :
    co (erfS c (Real.exp (-(co x 0 * co x 0))) (E (co x 0)) x) d = tc (fun t => E (curve x t)) d := by
  rw [← curve_zero x] at hEs ⊢
  exact ((jetOf_curve x).erf c E hE hEs).coeff d (by simpa [erfS] using hd)

theorem erfi_taylor (x : List ℝ) (c : ℝ) (E : ℝ → ℝ) (hE : ∀ y, HasDerivAt E (c * Real.exp (y * y)) y)
    (hEs : ContDiffAt ℝ ∞ E (co x 0)) (d : ℕ) (hd : d < x.length) :
    co (erfiS c (Real.exp (co x 0 * co x 0)) (E (co x 0)) x) d = tc (fun t => E (curve x t)) d := by
  rw [← curve_zero x] at hEs ⊢
  exact ((jetOf_curve x).erfi c E hE hEs).coeff d (by simpa [erfiS] using hd)

/-- `x ** r`, real exponent, `x₀ > 0` -/
theorem rpow_taylor (x : List ℝ) (r : ℝ) (hx : 0 < co x 0) (d : ℕ) (hd : d < x.length) :
    co (powRealS r ((co x 0) ^ r) x) d = tc (fun t => (curve x t) ^ r) d := by
  rw [← curve_zero x] at hx ⊢
  exact ((jetOf_curve x).rpow r hx).coeff d (by simpa using hd)

/-- `x ** n`, integer exponent through the general branch (the code uses it for `n < 0`), `x₀ ≠ 0` -/
theorem zpow_taylor (x : List ℝ) (n : ℤ) (hx : co x 0 ≠ 0) (d : ℕ) (hd : d < x.length) :
    co (powRealS (n : ℝ) ((co x 0) ^ n) x) d = tc (fun t => (curve x t) ^ n) d := by
  rw [← curve_zero x] at hx ⊢
  exact ((jetOf_curve x).zpow n hx).coeff d (by simpa using hd)

/-- `x ** r` for a Python int `r ≥ 0` (all base points, including `x₀ = 0`) -/
theorem pownat_taylor (x : List ℝ) (r : ℕ) (d : ℕ) (hd : d < (powNatS r x).length) :
    co (powNatS r x) d = tc (fun t => (curve x t) ^ r) d :=
  ((jetOf_curve x).pownat r).coeff d hd

theorem absolute_taylor (x : List ℝ) (hx : co x 0 ≠ 0) (d : ℕ) (hd : d < x.length) :
    co (absoluteS (SignType.sign (co x 0) : ℝ) |co x 0| x) d = tc (fun t => |curve x t|) d := by
  rw [← curve_zero x] at hx ⊢
  exact ((jetOf_curve x).abs hx).coeff d (by simpa [absoluteS] using hd)

theorem sign_taylor (x : List ℝ) (hx : co x 0 ≠ 0) (d : ℕ) (hd : d < x.length) :
    co (signS (SignType.sign (co x 0) : ℝ) x) d = tc (fun t => (SignType.sign (curve x t) : ℝ)) d := by
  rw [← curve_zero x] at hx ⊢
  exact ((jetOf_curve x).sign hx).coeff d (by simpa [signS] using hd)

theorem minimum_maximum_taylor (x y : List ℝ) (hl : y.length = x.length) (h : co x 0 < co y 0) (d : ℕ) (hd : d < x.length) :
    co (selectS 1 x y) d = tc (fun t => min (curve x t) (curve y t)) d
    ∧ co (selectS 0 x y) d = tc (fun t => max (curve x t) (curve y t)) d := by
  rw [← curve_zero x, ← curve_zero y] at h
  have := (jetOf_curve x).min_max (jetOf_curve y) hl h
  exact ⟨this.1.coeff d (by simpa [selectS] using hd), this.2.coeff d (by simpa [selectS] using hd)⟩

/-- `_eval_slow_generic(f, x)` (gammaln, psi, polygamma, hyperu): for every `f` smooth at `x₀` and
derivative leaves `derivs[d] = f⁽ᵈ⁾(x₀)` (what C16 establishes for `algopy.nthderiv`) -/
theorem slow_generic_taylor (x : List ℝ) (f : ℝ → ℝ) (hf : ContDiffAt ℝ ∞ f (co x 0)) (derivs : List ℝ)
    (hd : ∀ d, d < x.length → co derivs d = iteratedDeriv d f (co x 0)) (d : ℕ) (hdl : d < (slowGenericS derivs x).length) :
    co (slowGenericS derivs x) d = tc (fun t => f (curve x t)) d := by
  rw [← curve_zero x] at hf hd
  exact ((jetOf_curve x).slowGeneric f hf derivs hd).coeff d hdl

theorem faa_di_bruno {X : ℝ → ℝ} (hX : Smooth0 X) (i n : ℕ) (h : i ≤ n) (f : ℝ → ℝ) (hf : ContDiffAt ℝ ∞ f (X 0)) :
    tc (fun t => f (X t)) i = ∑ d ∈ Finset.range (n + 1), tcAt f (X 0) d * tc (fun t => shift0 X t ^ d) i :=
  faa_power hX i n h f hf

/-- `_dawsn`: for every smooth `F` with `F'(y) = 1 - 2 y F(y)` (Dawson's integral; leaf `F(x₀)` from SciPy) -/
theorem dawsn_taylor (x : List ℝ) (F : ℝ → ℝ) (hF : ∀ y, HasDerivAt F (1 - 2 * y * F y) y)
    (hFs : ContDiffAt ℝ ∞ F (co x 0)) (d : ℕ) (hd : d < (dawsnS (F (co x 0)) x).length) :
    co (dawsnS (F (co x 0)) x) d = tc (fun t => F (curve x t)) d := by
  rw [← curve_zero x] at hFs hd ⊢
  exact ((jetOf_curve x).dawsn F hF hFs).coeff d hd

/-- `erf`, `erfi`, Dawson's integral as concrete functions (`erfC c y = c ∫₀^y e^{-s²}`, `erfiC c y = c ∫₀^y e^{s²}`,
`dawsonF y = e^{-y²} ∫₀^y e^{s²}`; `c = 2/√π`) -/
theorem erf_dawsn_concrete (x : List ℝ) (c : ℝ) (d : ℕ) (hd : d < x.length) :
    co (erfS c (Real.exp (-(co x 0 * co x 0))) (erfC c (co x 0)) x) d = tc (fun t => erfC c (curve x t)) d
    ∧ co (erfiS c (Real.exp (co x 0 * co x 0)) (erfiC c (co x 0)) x) d = tc (fun t => erfiC c (curve x t)) d
    ∧ co (dawsnS (dawsonF (co x 0)) x) d = tc (fun t => dawsonF (curve x t)) d := by
  rw [← curve_zero x]
  exact ⟨((jetOf_curve x).erf c _ (erfC_hasDerivAt c) (erfC_contDiff c).contDiffAt).coeff d (by simpa [erfS] using hd),
    ((jetOf_curve x).erfi c _ (erfiC_hasDerivAt c) (erfiC_contDiff c).contDiffAt).coeff d (by simpa [erfiS] using hd),
    ((jetOf_curve x).dawsn _ dawsonF_hasDerivAt dawsonF_contDiff.contDiffAt).coeff d
      (by simpa [dawsnS, odeS_length] using hd)⟩

/-- `botched_clip(lo, hi, x)` away from the kinks: inside the interval the identity, outside a constant -/
theorem clip_taylor_inside (x : List ℝ) (lo hi : ℝ) (h1 : lo < co x 0) (h2 : co x 0 < hi) (d : ℕ) (hd : d < x.length) :
    co (clipS (co x 0) 1 x) d = tc (fun t => max lo (min (curve x t) hi)) d := by
  rw [← curve_zero x] at h1 h2 ⊢
  exact ((jetOf_curve x).clip_inside lo hi h1 h2).coeff d (by simpa [clipS] using hd)

theorem clip_taylor_outside (x : List ℝ) (lo hi : ℝ) (hlh : lo ≤ hi) (d : ℕ) (hd : d < x.length) :
    (co x 0 < lo → co (clipS lo 0 x) d = tc (fun t => max lo (min (curve x t) hi)) d)
    ∧ (hi < co x 0 → co (clipS hi 0 x) d = tc (fun t => max lo (min (curve x t) hi)) d) :=
  ⟨fun h => ((jetOf_curve x).clip_below lo hi (curve_zero x ▸ h)).coeff d (by simpa [clipS] using hd),
   fun h => ((jetOf_curve x).clip_above lo hi hlh (curve_zero x ▸ h)).coeff d (by simpa [clipS] using hd)⟩

theorem jet_lemma {X G : ℝ → ℝ} (hX : Smooth0 X) (hG : Smooth0 G) (n : ℕ) (h : ∀ k, k ≤ n → tc X k = tc G k)
    (d : ℕ) (hd : d ≤ n) (f : ℝ → ℝ) (hf : ContDiffAt ℝ ∞ f (X 0)) :
    tc (fun t => f (X t)) d = tc (fun t => f (G t)) d :=
  tc_comp_congr hX hG n h d hd f hf

/-- example of a composed program: `exp(sin(x) * x)`, every coefficient, every input -/
theorem jet_exp_sin_mul (x : List ℝ) :
    JetOf (expS (Real.exp (Real.sin (co x 0) * co x 0)) (mulS (sincosS (Real.sin (co x 0)) (Real.cos (co x 0)) x).1 x))
      (fun t => Real.exp (Real.sin (curve x t) * curve x t)) := by
  have h1 := (jetOf_curve x).sin
  have h2 := h1.mul (jetOf_curve x) (by simp [sincosS, build_length])
  have h3 := h2.exp
  simpa only [curve_zero, Pi.mul_apply] using h3

/-! ## formal layer: defining identities over any field of characteristic 0 -/
section
variable {K : Type} [Field K] [CharZero K]

/-- `y = exp x`: `y₀` is the leaf and `(d+1) y_{d+1} = Σ_{i≤d} (i+1) x_{i+1} y_{d-i}` (i.e. `y' = x' y`) -/
theorem exp_formal (y0 : K) (x : List K) (d : ℕ) (h : d + 1 < x.length) :
    co (expS y0 x) 0 = y0 ∧
    ((d + 1 : ℕ) : K) * co (expS y0 x) (d+1)
      = ∑ i ∈ Finset.range (d+1), ((1 + i : ℕ) : K) * co x (1+i) * co (expS y0 x) (d - i) := by
  refine ⟨co_build_zero _ (by omega), ?_⟩
  unfold expS
  rw [co_build_take _ h, expStep, length_take_build _ h.le, if_neg (Nat.succ_ne_zero d), nat_eq, succ_mul_sumRange_div]
  simp (disch := omega) only [co_take, nat_eq, succ_sub_one_add]
  exact Finset.sum_congr rfl fun i _ => by ring

/-- `y = log x`: `x y' = x'` -/
theorem log_formal (y0 : K) (x : List K) (hx : co x 0 ≠ 0) (d : ℕ) (h : d + 1 < x.length) :
    co (logS y0 x) 0 = y0 ∧
    co x 0 * (((d + 1 : ℕ) : K) * co (logS y0 x) (d+1))
      = ((d + 1 : ℕ) : K) * co x (d+1)
        - ∑ j ∈ Finset.range d, co x (d - j) * (((1 + j : ℕ) : K) * co (logS y0 x) (1+j)) := by
  refine ⟨logS_zero y0 x (by omega), ?_⟩
  -- `ỹ_j = j y_j` for `1 ≤ j < length`, `ỹ` the list built by the first loop of `_log`
  have key : ∀ j, j + 1 < x.length →
      ((j + 1 : ℕ) : K) * co (logS y0 x) (j+1) = co (build (logTildeStep y0 x) x.length) (j+1) := by
    intro j hj
    have hne : ((j + 1 : ℕ) : K) ≠ 0 := by exact_mod_cast Nat.succ_ne_zero j
    rw [logS, co_map_range hj, if_neg (Nat.succ_ne_zero j), nat_eq, mul_div_cancel₀ _ hne]
  rw [key d h, co_build_take _ h, logTildeStep, length_take_build _ h.le, if_neg (Nat.succ_ne_zero d),
    mul_div_cancel₀ _ hx, mul_comm (co x (d+1))]
  simp (disch := omega) only [co_take, sumRange_eq, nat_eq, Nat.add_sub_cancel, succ_sub_one_add]
  congr 1
  exact Finset.sum_congr rfl fun j hj => by rw [Nat.add_comm 1 j, key j (by have := Finset.mem_range.mp hj; omega)]

/-- `y = sqrt x`: `y · y = x` modulo `t^D` -/
theorem sqrt_formal (y0 : K) (x : List K) (hy : y0 ≠ 0) (hx : y0 * y0 = co x 0) (d : ℕ) (h : d < x.length) :
    ∑ k ∈ Finset.range (d+1), co (sqrtS y0 x) k * co (sqrtS y0 x) (d-k) = co x d := by
  have h0 : co (sqrtS y0 x) 0 = y0 := co_build_zero _ (by omega)
  cases d with
  | zero => simp [h0, hx]
  | succ d =>
    have hs : co (sqrtS y0 x) (d+1) = (1 / (2 * y0)) *
        (co x (d+1) - ∑ j ∈ Finset.range d, co (sqrtS y0 x) (1+j) * co (sqrtS y0 x) (d-j)) := by
      unfold sqrtS at h0 ⊢
      rw [co_build_take _ h, sqrtStep, length_take_build _ h.le, if_neg (Nat.succ_ne_zero d)]
      simp (disch := omega) only [co_take, h0, sumRange_eq, nat_eq, Nat.cast_ofNat, Nat.add_sub_cancel, succ_sub_one_add]
    rw [Finset.sum_range_succ, Finset.sum_range_succ', Nat.sub_self, Nat.sub_zero, h0, hs]
    simp only [Nat.add_sub_add_right, Nat.add_comm 1]
    field_simp
    ring

/-- `s = sin x, c = cos x`: `s' = x' c`, `c' = -x' s` -/
theorem sincos_formal (s0 c0 : K) (x : List K) (d : ℕ) (h : d + 1 < x.length) :
    ((d + 1 : ℕ) : K) * co (sincosS s0 c0 x).1 (d+1)
        = ∑ i ∈ Finset.range (d+1), ((1 + i : ℕ) : K) * co x (1+i) * co (sincosS s0 c0 x).2 (d - i)
    ∧ ((d + 1 : ℕ) : K) * co (sincosS s0 c0 x).2 (d+1)
        = ∑ i ∈ Finset.range (d+1), -(((1 + i : ℕ) : K) * co x (1+i) * co (sincosS s0 c0 x).1 (d - i)) := by
  unfold sincosS
  simp only [co_unzip_fst, co_unzip_snd]
  rw [build_getD_take _ h, sincosStep, length_take_build _ h.le, if_neg (Nat.succ_ne_zero d)]
  simp (disch := omega) only [getD_take, nat_eq, succ_mul_sumRange_div, succ_sub_one_add, neg_mul, and_self]

/-- `z = 1/y`: `z · y = 1` modulo `t^D` -/
theorem reciprocal_formal (y : List K) (hy : co y 0 ≠ 0) (d : ℕ) (h : d < y.length) :
    ∑ k ∈ Finset.range (d+1), co (recipS y) k * co y (d-k) = if d = 0 then 1 else 0 :=
  recipS_mul y hy d h
end

/-! ## any number of directions `P`, any coefficient shape -/
section
open NdArray
attribute [local instance] inh0

/-- a UTPM method = the L0 kernel applied to every `(p, idx)` series (model of `clone()` + kernel) -/
theorem utpm_elementwise {K : Type} [Field K] (f : List K → List K → List K) (leaves : List (NdArray K))
    (x : NdArray K) (D P : Nat) (s : List Nat) (hx : x.shape = D :: P :: s) (p : Nat) (idx : List Nat)
    (hp : p < P) (h : ValidIdx s idx) (d : Nat) (hd : d < D) :
    co (seriesAt (mapS1 f leaves x) p idx) d
      = co (f (leaves.map fun l => l.get (p :: idx)) (seriesAt x p idx)) d := by
  rw [seriesAt_mapS1 f leaves x D P s hx p idx hp h, co_map_range hd]

/-- `UTPM.exp` for every direction `p`, element `idx` and order `d`, with the leaf array
`numpy.exp(x.data[0])` -/
theorem utpm_exp_taylor (x leaf : NdArray ℝ) (D P : Nat) (s : List Nat) (hx : x.shape = D :: P :: s)
    (p : Nat) (idx : List Nat) (hp : p < P) (h : ValidIdx s idx) (d : Nat) (hd : d < D)
    (hleaf : leaf.get (p :: idx) = Real.exp (co (seriesAt x p idx) 0)) :
    co (seriesAt (mapS1 (fun lv xs => expS (lv.getD 0 0) xs) [leaf] x) p idx) d
      = tc (fun t => Real.exp (curve (seriesAt x p idx) t)) d := by
  rw [utpm_elementwise _ _ x D P s hx p idx hp h d hd]
  simp only [List.map_cons, List.map_nil, List.getD_cons_zero, hleaf]
  exact exp_taylor _ d (by simpa [seriesAt_eq hx] using hd)
end

example : expS (1:ℚ) [0, 1, 0, 0, 0] = [1, 1, 1/2, 1/6, 1/24] := by decide +kernel
example : (0:ℕ) < ([0, 1, 0, 0, 0] : List ℝ).length := by simp

end AV.C01
