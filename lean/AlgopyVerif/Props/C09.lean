import AlgopyVerif.Proofs.DriversSeed
import AlgopyVerif.Proofs.LineDeriv
import AlgopyVerif.Proofs.Jet
/-!
# C09 — forward-mode derivative drivers are exact

For a function with (symmetric) Hessian `H` at the seed point the second Taylor coefficient along
direction `v` is `c₂(v) = ½ vᵀ H v` (`quad H v`).  Extraction algebra, for **every** `N`:

* `hessian_diagonal`, `hessian_offdiagonal`: `2 c₂(e_n) = H_nn`,
  `c₂(e_n + e_m) − c₂(e_n) − c₂(e_m) = H_nm` — the formulas of `extract_hessian`;
* `hess_vec_entry`: `−c₂(e_n) + c₂(v + e_n) − c₂(v) = (H v)_n` — `extract_hess_vec`.

Seed tables (`init_hessian`'s triangular layout `a(n) = n(n+1)/2`, `k(n,m) = (n+1)(n+2)/2 − m − 1`;
`init_hess_vec`'s `2N+1` directions): `hessian_seed_table_all`, `hess_vec_seed_table_all` for **every** `N`
(and every `v`); the executable table checks for `N = 1 … 8` are instances of the general theorem.  `init_tensor /
extract_tensor` rest on the Γ identity of C15.

Program level (`program_*` below): for **every** `F : ℝᴺ → ℝ` that is `C²` at `x` (the composite function of
the program), the Taylor coefficients of `t ↦ F(x + t v)` are `c₁(v) = ∇F(x)·v` and `c₂(v) = ½ vᵀ∇²F(x) v` with
the symmetric Hessian `∂²F/∂x_n∂x_m` (`fderiv ℝ (fderiv ℝ F) x e_n e_m`), so the three extraction formulas return
the true Jacobian / Hessian entries and Hessian-vector products.  That the UTP evaluation of the program on
the seeded input computes the jet of `t ↦ F(x + t v)` is the `JetOf` closure of C01 (`utp_second_coefficient`
states the composition).  It is also checked on the implementation for polynomial programs against exact
analytic derivatives and for smooth programs against arbitrary-direction Taylor propagation.
-/
namespace AV.C09
variable {K : Type} [Field K] [CharZero K] {N : ℕ}

theorem hessian_diagonal (H : Fin N → Fin N → K) (n : Fin N) : 2 * quad H (Pi.single n 1) = H n n := by
  rw [quad, bil_single_single, mul_div_cancel₀ _ two_ne_zero]

theorem hessian_offdiagonal (H : Fin N → Fin N → K) (hH : ∀ i j, H i j = H j i) (n m : Fin N) :
    quad H (Pi.single n 1 + Pi.single m 1) - quad H (Pi.single n 1) - quad H (Pi.single m 1) = H n m := by
  rw [quad_polar H hH, bil_single_single]

theorem hess_vec_entry (H : Fin N → Fin N → K) (hH : ∀ i j, H i j = H j i) (v : Fin N → K) (n : Fin N) :
    -quad H (Pi.single n 1) + quad H (v + Pi.single n 1) - quad H v = ∑ j, H n j * v j := by
  rw [← bil_single_left, bil_symm H hH, ← quad_polar H hH]
  ring

/-! ## program level: the coefficients along `x + t v` are the gradient and Hessian forms -/
section program
variable {M : ℕ}

/-- second Taylor coefficient of the program's composite function along direction `v` -/
noncomputable def c2 (F : (Fin M → ℝ) → ℝ) (x v : Fin M → ℝ) : ℝ := tc (fun t => F (line x v t)) 2

/-- first Taylor coefficient of the program's composite function along direction `v` -/
noncomputable def c1 (F : (Fin M → ℝ) → ℝ) (x v : Fin M → ℝ) : ℝ := tc (fun t => F (line x v t)) 1

/-- `extract_jacobian`: first coefficient along `e_n` is `∂F/∂x_n` -/
theorem program_jacobian (F : (Fin M → ℝ) → ℝ) (x : Fin M → ℝ) (hF : DifferentiableAt ℝ F x) (n : Fin M) :
    c1 F x (Pi.single n 1) = gradAt F x n := tc_line_one F x _ hF

/-- `extract_jac_vec`: first coefficient along `v` is `∇F(x)·v` -/
theorem program_jac_vec (F : (Fin M → ℝ) → ℝ) (x v : Fin M → ℝ) (hF : DifferentiableAt ℝ F x) :
    c1 F x v = ∑ i, gradAt F x i * v i := by
  unfold c1; rw [tc_line_one F x v hF, fderiv_eq_grad]

theorem program_c2 (F : (Fin M → ℝ) → ℝ) (x : Fin M → ℝ) (hF : ContDiffAt ℝ 2 F x) :
    c2 F x = quad (hessAt F x) := funext fun v => tc_line_two_quad F x v hF

/-- `extract_hessian`, diagonal -/
theorem program_hessian_diag (F : (Fin M → ℝ) → ℝ) (x : Fin M → ℝ) (hF : ContDiffAt ℝ 2 F x) (n : Fin M) :
    2 * c2 F x (Pi.single n 1) = hessAt F x n n := by
  rw [program_c2 F x hF]; exact hessian_diagonal _ n

/-- `extract_hessian`, off-diagonal -/
theorem program_hessian_offdiag (F : (Fin M → ℝ) → ℝ) (x : Fin M → ℝ) (hF : ContDiffAt ℝ 2 F x) (n m : Fin M) :
    c2 F x (Pi.single n 1 + Pi.single m 1) - c2 F x (Pi.single n 1) - c2 F x (Pi.single m 1) = hessAt F x n m := by
  rw [program_c2 F x hF]; exact hessian_offdiagonal _ (hessAt_symm F x hF) n m

/-- `extract_hess_vec` -/
theorem program_hess_vec (F : (Fin M → ℝ) → ℝ) (x v : Fin M → ℝ) (hF : ContDiffAt ℝ 2 F x) (n : Fin M) :
    -c2 F x (Pi.single n 1) + c2 F x (v + Pi.single n 1) - c2 F x v = ∑ j, hessAt F x n j * v j := by
  rw [program_c2 F x hF]; exact hess_vec_entry _ (hessAt_symm F x hF) v n

/-- composition with C01: a UTP coefficient list that is the jet of `t ↦ F(x + t v)` (what the kernels
compute, by the `JetOf` closure) carries `½ vᵀ∇²F v` at order 2 and `∇F·v` at order 1 -/
theorem utp_second_coefficient (F : (Fin M → ℝ) → ℝ) (x v : Fin M → ℝ) (hF : ContDiffAt ℝ 2 F x)
    (l : List ℝ) (hl : 2 < l.length) (hj : JetOf l (fun t => F (line x v t))) :
    co l 2 = quad (hessAt F x) v ∧ co l 1 = ∑ i, gradAt F x i * v i := by
  refine ⟨?_, ?_⟩
  · rw [hj.coeff 2 hl]; exact tc_line_two_quad F x v hF
  · rw [hj.coeff 1 (by omega), tc_line_one F x v (hF.differentiableAt (by norm_num)), fderiv_eq_grad]

/-- non-vacuity of the hypothesis: a polynomial program is `C²` everywhere -/
example (x : Fin 2 → ℝ) : ContDiffAt ℝ 2 (fun y : Fin 2 → ℝ => y 0 * y 1 + y 0 ^ 3) x := by
  fun_prop
end program

theorem hessian_seed_table_all (N : ℕ) :
    (hessDirs (K := ℚ) N).length = N * (N + 1) / 2
    ∧ (∀ n, n < N → (hessDirs (K := ℚ) N).getD (hessA n) [] = unitVec N n)
    ∧ (∀ n m, n < N → m < n → (hessDirs (K := ℚ) N).getD (hessK n m) [] = addS (unitVec N n) (unitVec N m)) :=
  hessDirs_table N

theorem hess_vec_seed_table_all (N : ℕ) (v : List ℚ) (hv : v.length = N) :
    (hessVecDirs N v).length = 2 * N + 1
    ∧ (hessVecDirs N v).getD (2 * N) [] = v
    ∧ (∀ n, n < N → (hessVecDirs N v).getD n [] = unitVec N n)
    ∧ (∀ n, n < N → (hessVecDirs N v).getD (n + N) [] = addS v (unitVec N n)) :=
  hessVecDirs_table N v hv

theorem hessian_seed_table_1 : hessTableOK 1 = true := hessTableOK_all 1
theorem hessian_seed_table_2 : hessTableOK 2 = true := hessTableOK_all 2
theorem hessian_seed_table_3 : hessTableOK 3 = true := hessTableOK_all 3
theorem hessian_seed_table_4 : hessTableOK 4 = true := hessTableOK_all 4
theorem hessian_seed_table_5 : hessTableOK 5 = true := hessTableOK_all 5
theorem hessian_seed_table_6 : hessTableOK 6 = true := hessTableOK_all 6
theorem hessian_seed_table_7 : hessTableOK 7 = true := hessTableOK_all 7
theorem hessian_seed_table_8 : hessTableOK 8 = true := hessTableOK_all 8
theorem hess_vec_seed_table_4 : hessVecTableOK 4 [1/2, -3, 2, 7] = true := hessVecTableOK_all 4 _ rfl

example : hessDirs (K := ℚ) 2 = [[1, 0], [0, 1], [1, 1]] := by decide +kernel

end AV.C09
