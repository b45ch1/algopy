import AlgopyVerif.Proofs.Lift
import AlgopyVerif.Proofs.Linalg
import AlgopyVerif.Proofs.Faa
/-!
# C10 — zeroth coefficient, shapes and comparisons follow NumPy

* the zeroth coefficient of every L0 kernel is the NumPy/SciPy value on the zeroth
  coefficients (the leaf, or the plain arithmetic result), independent of every higher
  input coefficient;
* the comparison operators are `numpy.all` of the comparison of zeroth coefficients, so
  they do not depend on higher coefficients;
* shape laws of the L2 model: element-wise functions keep the shape, binary operators
  return the broadcast shape;
* matrix kernels over any ring: `dot`, `inv`, `solve` have zeroth coefficient `X₀Y₀`, `inv(A₀)`,
  `A₀⁻¹B₀` (the NumPy leaf); the fold-based kernel `_eval_slow_generic` returns the leaf `f(x₀)` (`_dawsn`: no theorem).

The dispatcher behaviour (plain arrays go to NumPy), factorizations and shapes of the matrix functions are
checked on the implementation by the C10 correspondence run.
-/
open AV NdArray Finset
namespace AV.C10
section
variable {K : Type} [Field K]

theorem add_zeroth (x y : List K) (h : 0 < x.length) : co (addS x y) 0 = co x 0 + co y 0 := addS_co x y 0 h
theorem sub_zeroth (x y : List K) (h : 0 < x.length) : co (subS x y) 0 = co x 0 - co y 0 := subS_co x y 0 h

theorem mul_zeroth (x y : List K) (h : 0 < x.length) : co (mulS x y) 0 = co x 0 * co y 0 := by
  rw [mulS_co x y 0 h]; simp

theorem div_zeroth (x y : List K) (h : 0 < x.length) : co (divS x y) 0 = co x 0 / co y 0 := by
  rw [divS_co x y 0 h, sum_range_zero, sub_zero, one_div_mul_eq_div]

theorem reciprocal_zeroth (y : List K) (h : 0 < y.length) : co (recipS y) 0 = 1 / co y 0 := by
  rw [recipS_eq_divS, div_zeroth _ y (by simpa using h), co_constS _ _ _ h, if_pos rfl]

theorem square_zeroth (x : List K) (h : 0 < x.length) : co (squareS x) 0 = co x 0 * co x 0 := by
  rw [squareS_eq_mulS]; exact mul_zeroth x x h

theorem exp_zeroth (y0 : K) (x : List K) (h : 0 < x.length) : co (expS y0 x) 0 = y0 := co_build_zero _ h
theorem log_zeroth (y0 : K) (x : List K) (h : 0 < x.length) : co (logS y0 x) 0 = y0 := logS_zero y0 x h
theorem sqrt_zeroth (y0 : K) (x : List K) (h : 0 < x.length) : co (sqrtS y0 x) 0 = y0 := co_build_zero _ h
theorem sincos_zeroth (s0 c0 : K) (x : List K) (h : 0 < x.length) :
    co (sincosS s0 c0 x).1 0 = s0 ∧ co (sincosS s0 c0 x).2 0 = c0 :=
  co_unzip_build_zero _ h

theorem pow_real_zeroth (r y0 : K) (x : List K) (h : 0 < x.length) : co (powRealS r y0 x) 0 = y0 :=
  co_build_zero _ h

theorem tansec2_zeroth (y0 z0 : K) (x : List K) (h : 0 < x.length) :
    co (tansec2S y0 z0 x).1 0 = y0 ∧ co (tansec2S y0 z0 x).2 0 = z0 :=
  co_unzip_build_zero _ h

theorem tanhsech2_zeroth (y0 z0 : K) (x : List K) (h : 0 < x.length) :
    co (tanhsech2S y0 z0 x).1 0 = y0 ∧ co (tanhsech2S y0 z0 x).2 0 = z0 :=
  co_unzip_build_zero _ h

theorem sinhcosh_zeroth (s0 c0 : K) (x : List K) (h : 0 < x.length) :
    co (sinhcoshS s0 c0 x).1 0 = s0 ∧ co (sinhcoshS s0 c0 x).2 0 = c0 :=
  co_unzip_build_zero _ h

theorem arcsin_zeroth (y0 z0 : K) (x : List K) (h : 0 < x.length) : co (arcsinS y0 z0 x).1 0 = y0 :=
  (co_unzip_build_zero _ h).1

theorem arctan_zeroth (y0 : K) (x : List K) (h : 0 < x.length) : co (arctanS y0 x).1 0 = y0 :=
  (co_unzip_build_zero _ h).1

theorem black_white_zeroth (f0 : K) (fp x : List K) (h : 0 < x.length) : co (blackWhiteS f0 fp x) 0 = f0 := by
  rw [blackWhiteS, co_map_range h, if_pos rfl]

attribute [local instance] inh0

theorem dot_zeroth {R : Type} [Ring R] (x y : List R) (h : 0 < x.length) : coR (dotM x y) 0 = coR x 0 * coR y 0 :=
  (mulS_co x y 0 h).trans (by simp [coR_eq_co])

theorem inv_zeroth {R : Type} [Ring R] (x : List R) (y0 : R) (h : 0 < x.length) : coR (invM x y0) 0 = y0 :=
  invM_zero x y0 h

theorem solve_zeroth {R : Type} [Ring R] (a : List R) (a0inv : R) (b : List R) (h : 0 < b.length) :
    coR (solveM a a0inv b) 0 = a0inv * coR b 0 := by
  rw [solveM, coR, build_getD _ _ _ h]
  simp [build, solveStepM, sumRange, coR]

theorem slow_generic_zeroth (derivs x : List ℝ) (h : 0 < x.length) : co (slowGenericS derivs x) 0 = co derivs 0 := by
  rw [slowGenericS_eq (jetOf_curve x), slowGenericY, co_map_range h, if_pos rfl]

/-- `x < y` (and `<=, >, >=, ==`) is `numpy.all` over the zeroth coefficients -/
theorem compare_iff (r : K → K → Bool) (x y : NdArray K) (D P : Nat) (s : List Nat)
    (hx : x.shape = D :: P :: s) :
    cmpAll r x y = true ↔
      ∀ p idx, p < P → ValidIdx s idx → r (x.get (0 :: p :: idx)) (y.get (0 :: p :: idx)) = true := by
  have hall : cmpAll r x y = (allIdx (P :: s)).all fun j => r (x.get (0 :: j)) (y.get (0 :: j)) := by
    simp [cmpAll, allIdx, utP_eq hx, utShape_eq hx, List.all_map, Function.comp_def]
  rw [hall, List.all_eq_true]
  simp only [mem_allIdx]
  exact ⟨fun h p idx hp hv => h (p :: idx) ⟨hp, hv⟩, fun h j hj => match j, hj with
    | p :: idx, ⟨hp, hv⟩ => h p idx hp hv⟩

theorem compare_ignores_higher (r : K → K → Bool) (x x' y y' : NdArray K)
    (hs : x'.shape = x.shape)
    (hx : ∀ i, x'.get (0 :: i) = x.get (0 :: i)) (hy : ∀ i, y'.get (0 :: i) = y.get (0 :: i)) :
    cmpAll r x' y' = cmpAll r x y := by
  unfold cmpAll
  have hP : utP x' = utP x := by simp [utP, hs]
  have hS : utShape x' = utShape x := by simp [utShape, hs]
  simp only [hP, hS, hx, hy]

theorem elementwise_shape (f : List K → List K → List K) (leaves : List (NdArray K)) (x : NdArray K)
    (D P : Nat) (s : List Nat) (hx : x.shape = D :: P :: s) : (mapS1 f leaves x).shape = x.shape := by
  show utD x :: utP x :: utShape x = x.shape
  rw [utD_eq hx, utP_eq hx, utShape_eq hx, hx]

theorem binary_shape (f : List K → List K → List K) (x y z : NdArray K) (sh : List Nat)
    (hb : utBroadcastShape x.shape y.shape = some sh) (hlen : 2 ≤ sh.length) (hz : zipS2 f x y = some z) :
    z.shape = sh := by
  unfold zipS2 at hz
  rw [hb] at hz
  cases hz
  match sh, hlen with
  | a :: b :: rest, _ => rfl

end
end AV.C10
