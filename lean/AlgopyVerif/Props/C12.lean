import AlgopyVerif.Proofs.SpecialFns
import AlgopyVerif.Proofs.Ode
import AlgopyVerif.Proofs.Recurrence
import AlgopyVerif.Proofs.Faa
import AlgopyVerif.Proofs.Linalg
import AlgopyVerif.Proofs.EighStep
import AlgopyVerif.Proofs.TapeNatural
/-!
# C12 — low-order coefficients do not depend on the truncation degree

For every L0 kernel `F` that is a `build` or convolution recurrence (the model of the corresponding `algorithms.py`
recurrence; not the kink kernels `absoluteS`, `signS`, `selectS`, `clipS` nor the integer powers `powBinS`, `powMaskS`),
every input series `x`, every `D' ≤ D = x.length`:

    (F x).take D' = F (x.take D')

i.e. output coefficient `d` depends only on input coefficients of order `≤ d`; with
`D' = 1` the result is the plain function value (the leaf).  The statement is over an
arbitrary field `K` (so it covers real and complex coefficients).  UTPM-level functions
are these kernels mapped over `(p, idx)` (`Model/Utpm.lean: mapS1`), the tie of which to
the code is the C12 correspondence run.

The two fold-based kernels, `slowGenericS` (`_eval_slow_generic`: gammaln, psi, polygamma, hyperu) and `dawsnS` (`_dawsn`
through the generic ODE solver), are proved over ℝ, for every list of derivative leaves resp. every leaf value, as a
corollary of the analytic layer of C01: the output is the jet of a function that does not depend on `D`.
The matrix kernels `dot`, `inv`, `solve` over any ring.  Factorizations (`qr_prefix`, `cholesky_prefix`, `lu_prefix`,
`eigh_prefix`): two runs whose inputs agree up to order `m`, with the same zeroth-order leaves, both obeying the order-`d`
step equations (the hypotheses tied to the code in C08), agree up to order `m`.
Reverse sweep (`reverse_sweep_truncation`): the truncation `S[t]/(t^D) → S[t]/(t^D')` is a ring homomorphism (`truncHom`),
and every ring homomorphism commutes with the reverse sweep of tapes whose computations commute with it (ring operations do
for free; for a series kernel this is what its `*_prefix` theorem says at list level — the passage from `List K` to
`S[t]/(t^D)` is argued, not formalised): the first `D'` coefficients of every adjoint of a sweep with `D`
coefficients are the adjoints of the sweep with `D'` coefficients.
Not proved: the two fold-based kernels over other fields; svd, eig.
-/
namespace AV.C12
variable {K : Type} [Field K]

theorem add_prefix (x y : List K) (m : Nat) (h : m ≤ x.length) :
    (addS x y).take m = addS (x.take m) (y.take m) :=
  map_range_take_congr x h fun d hd => by rw [co_take x m d hd, co_take y m d hd]

theorem sub_prefix (x y : List K) (m : Nat) (h : m ≤ x.length) :
    (subS x y).take m = subS (x.take m) (y.take m) :=
  map_range_take_congr x h fun d hd => by rw [co_take x m d hd, co_take y m d hd]

theorem mul_prefix (x y : List K) (m : Nat) (h : m ≤ x.length) :
    (mulS x y).take m = mulS (x.take m) (y.take m) := mulS_take x y m h

theorem div_prefix (x y : List K) (m : Nat) (h : m ≤ x.length) :
    (divS x y).take m = divS (x.take m) (y.take m) :=
  -- `omega` gets the bounds on the summation index from the congruence lemma `sumRange_congr'`
  build_take_congr x h fun acc ha => by simp (disch := omega) only [divStep, co_take]

theorem neg_prefix (x : List K) (m : Nat) : (negS x).take m = negS (x.take m) := by
  unfold negS; rw [List.map_take]

theorem reciprocal_prefix (y : List K) (m : Nat) (h : m ≤ y.length) :
    (recipS y).take m = recipS (y.take m) :=
  build_take_congr y h fun acc ha => by simp (disch := omega) only [recipStep, co_take]

theorem square_prefix (x : List K) (m : Nat) (h : m ≤ x.length) :
    (squareS x).take m = squareS (x.take m) := by
  rw [squareS_eq_mulS, squareS_eq_mulS, mul_prefix x x m h]

theorem sqrt_prefix (y0 : K) (x : List K) (m : Nat) (h : m ≤ x.length) :
    (sqrtS y0 x).take m = sqrtS y0 (x.take m) :=
  build_take_congr x h fun acc ha => by simp (disch := omega) only [sqrtStep, co_take]

theorem exp_prefix (y0 : K) (x : List K) (m : Nat) (h : m ≤ x.length) :
    (expS y0 x).take m = expS y0 (x.take m) :=
  build_take_congr x h fun acc ha => by simp (disch := omega) only [expStep, co_take]

theorem log_prefix (y0 : K) (x : List K) (m : Nat) (h : m ≤ x.length) :
    (logS y0 x).take m = logS y0 (x.take m) := by
  unfold logS
  rw [← build_take_congr (s1 := logTildeStep y0 x) (s2 := logTildeStep y0 (x.take m)) x h fun acc ha => by
    simp (disch := omega) only [logTildeStep, co_take]]
  exact map_range_take_congr x h fun d hd => by rw [co_take _ m d hd, co_take _ m 0 (by omega)]

theorem pow_real_prefix (r y0 : K) (x : List K) (m : Nat) (h : m ≤ x.length) :
    (powRealS r y0 x).take m = powRealS r y0 (x.take m) :=
  build_take_congr x h fun acc ha => by simp (disch := omega) only [powRealStep, co_take]

theorem pow_nat_prefix (r : Nat) (x : List K) (m : Nat) (h : m ≤ x.length) :
    (powNatS r x).take m = powNatS r (x.take m) := by
  match r with
  | 0 => simp only [powNatS, constS]; rw [take_map_range _ _ h, List.length_take_of_le h]
  | 1 => rfl
  | 2 => exact square_prefix x m h
  | r+3 =>
    have key : ∀ (l : List Nat) (y : List K), y.length = x.length →
        (l.foldl (fun y _ => mulS x y) y).take m = l.foldl (fun y _ => mulS (x.take m) y) (y.take m) := by
      intro l
      induction l with
      | nil => intro y _; rfl
      | cons a l ih =>
        intro y hy
        rw [List.foldl_cons, List.foldl_cons, ih (mulS x y) (mulS_length x y), mul_prefix x y m h]
    exact key _ x rfl

theorem sincos_prefix (s0 c0 : K) (x : List K) (m : Nat) (h : m ≤ x.length) :
    ((sincosS s0 c0 x).1.take m, (sincosS s0 c0 x).2.take m) = sincosS s0 c0 (x.take m) :=
  pair_take (sincosStep s0 c0) x m h fun acc ha => by simp (disch := omega) only [sincosStep, co_take]

theorem sinhcosh_prefix (s0 c0 : K) (x : List K) (m : Nat) (h : m ≤ x.length) :
    ((sinhcoshS s0 c0 x).1.take m, (sinhcoshS s0 c0 x).2.take m) = sinhcoshS s0 c0 (x.take m) :=
  pair_take (sinhcoshStep s0 c0) x m h fun acc ha => by simp (disch := omega) only [sinhcoshStep, co_take]

theorem tansec2_prefix (y0 z0 : K) (x : List K) (m : Nat) (h : m ≤ x.length) :
    ((tansec2S y0 z0 x).1.take m, (tansec2S y0 z0 x).2.take m) = tansec2S y0 z0 (x.take m) :=
  tanLike_take (nat 2) y0 z0 x m h

theorem tanhsech2_prefix (y0 z0 : K) (x : List K) (m : Nat) (h : m ≤ x.length) :
    ((tanhsech2S y0 z0 x).1.take m, (tanhsech2S y0 z0 x).2.take m) = tanhsech2S y0 z0 (x.take m) :=
  tanLike_take (-(nat 2)) y0 z0 x m h

/-- covers `_arcsin` and `_arccos` (same recurrence, different leaves) -/
theorem arcsin_prefix (y0 z0 : K) (x : List K) (m : Nat) (h : m ≤ x.length) :
    ((arcsinS y0 z0 x).1.take m, (arcsinS y0 z0 x).2.take m) = arcsinS y0 z0 (x.take m) :=
  pair_take (arcsinStep y0 z0) x m h fun acc ha => by simp (disch := omega) only [arcsinStep, co_take]

theorem arctan_prefix (y0 : K) (x : List K) (m : Nat) (h : m ≤ x.length) :
    ((arctanS y0 x).1.take m, (arctanS y0 x).2.take m) = arctanS y0 (x.take m) :=
  pair_take (arctanStep y0) x m h fun acc ha => by simp (disch := omega) only [arctanStep, co_take]

theorem black_white_prefix (f0 : K) (fp x : List K) (m : Nat) (h : m ≤ x.length) :
    (blackWhiteS f0 fp x).take m = blackWhiteS f0 (fp.take m) (x.take m) :=
  map_range_take_congr x h fun d hd => by simp (disch := omega) only [co_take]

theorem expm1_prefix (e0 em0 : K) (x : List K) (m : Nat) (h : m ≤ x.length) :
    (expm1S e0 em0 x).take m = expm1S e0 em0 (x.take m) := by
  unfold expm1S
  rw [black_white_prefix _ _ _ _ h, exp_prefix _ _ _ h]

theorem log1p_prefix (l0 : K) (x : List K) (m : Nat) (h : m ≤ x.length) :
    (log1pS l0 x).take m = log1pS l0 (x.take m) := by
  unfold log1pS
  rw [black_white_prefix _ _ _ _ h, reciprocal_prefix _ _ (by simpa using h), plusConstS_take _ _ _ h]

theorem logit_prefix (l0 : K) (x : List K) (m : Nat) (h : m ≤ x.length) :
    (logitS l0 x).take m = logitS l0 (x.take m) := by
  unfold logitS
  rw [black_white_prefix _ _ _ _ h, reciprocal_prefix _ _ (by simpa using h), sub_prefix _ _ _ h, square_prefix _ _ h]

theorem expit_prefix (e0 f0 : K) (x : List K) (m : Nat) (h : m ≤ x.length) :
    (expitS e0 f0 x).take m = expitS e0 f0 (x.take m) := by
  unfold expitS
  rw [black_white_prefix _ _ _ _ h, sub_prefix _ _ _ (by simpa using h), square_prefix _ _ (by simpa using h),
    reciprocal_prefix _ _ (by simpa using h), plusConstS_take _ _ _ (by simpa using h), exp_prefix _ _ _ h]

theorem erf_prefix (c e0 f0 : K) (x : List K) (m : Nat) (h : m ≤ x.length) :
    (erfS c e0 f0 x).take m = erfS c e0 f0 (x.take m) := by
  unfold erfS scaleS
  rw [black_white_prefix _ _ _ _ h, ← List.map_take, exp_prefix _ _ _ (by simpa using h), neg_prefix, square_prefix _ _ h]

theorem erfi_prefix (c e0 f0 : K) (x : List K) (m : Nat) (h : m ≤ x.length) :
    (erfiS c e0 f0 x).take m = erfiS c e0 f0 (x.take m) := by
  unfold erfiS scaleS
  rw [black_white_prefix _ _ _ _ h, ← List.map_take, exp_prefix _ _ _ (by simpa using h), square_prefix _ _ h]

/-- `_eval_slow_generic` over ℝ: for every list of derivative leaves, the first `D'` coefficients do
not depend on `D` -/
theorem slow_generic_prefix (derivs x : List ℝ) (m : Nat) (hm : m ≤ x.length) (d : Nat) (hd : d < m) :
    co (slowGenericS derivs (x.take m)) d = co (slowGenericS derivs x) d := by
  -- both runs compute jets of one polynomial `f` that realises the derivative leaves
  have hx := jetOf_curve x
  have hf := polyWithDerivs_smooth derivs x.length (co x 0) (curve x 0)
  have hder : ∀ k, k < x.length → co derivs k = iteratedDeriv k (polyWithDerivs derivs x.length (co x 0)) (curve x 0) :=
    fun k hk => by rw [curve_zero, polyWithDerivs_iteratedDeriv derivs x.length (co x 0) k hk]
  exact ((hx.take m).slowGeneric _ hf derivs fun k hk => hder k (by
      rw [List.length_take_of_le hm] at hk; exact hk.trans_le hm)).co_eq (hx.slowGeneric _ hf derivs hder)
    (by rw [slowGenericS_length, List.length_take_of_le hm]; exact hd) (by rw [slowGenericS_length]; omega)

/-- `_dawsn` over ℝ, for every leaf value -/
theorem dawsn_prefix (v0 : ℝ) (x : List ℝ) (m : Nat) (hm : m ≤ x.length) (d : Nat) (hd : d < m) :
    co (dawsnS v0 (x.take m)) d = co (dawsnS v0 x) d := by
  -- both runs compute jets of the solution of `F' = 1 - 2yF` through `(x₀, v0)`
  have hx := jetOf_curve x
  have h0 : dawsonThrough (co x 0) v0 (curve x 0) = v0 := by rw [curve_zero]; exact dawsonThrough_at _ _
  have hfull := hx.dawsn (dawsonThrough (co x 0) v0) (dawsonThrough_hasDerivAt _ _)
    (dawsonThrough_contDiff _ _).contDiffAt
  have htr := (hx.take m).dawsn (dawsonThrough (co x 0) v0) (dawsonThrough_hasDerivAt _ _)
    (dawsonThrough_contDiff _ _).contDiffAt
  rw [h0] at hfull htr
  exact htr.co_eq hfull (by rw [dawsnS, odeS_length, List.length_take]; omega) (by rw [dawsnS, odeS_length]; omega)

theorem dot_matrix_prefix {R : Type} [Ring R] (x y : List R) (m : Nat) (h : m ≤ x.length) :
    (dotM x y).take m = dotM (x.take m) (y.take m) := mulS_take x y m h

theorem inv_matrix_prefix {R : Type} [Ring R] (x : List R) (y0 : R) (m : Nat) (h : m ≤ x.length) :
    (invM x y0).take m = invM (x.take m) y0 := by
  rw [invM_eq_solveConstBM, invM_eq_solveConstBM, solveConstBM, solveConstBM, ← solveMod_self,
    solveMod_take _ _ (by simpa using h), take_map_range _ _ h, List.length_take, Nat.min_eq_left h, solveMod_self]

theorem solve_matrix_prefix {R : Type} [Ring R] (a : List R) (a0inv : R) (b : List R) (m : Nat) (h : m ≤ b.length) :
    (solveM a a0inv b).take m = solveM (a.take m) a0inv (b.take m) := solveMod_take a a0inv h

/-! ### factorizations: the steps determine order `d` from input orders `≤ d` -/
section factor
open AV.Factor
variable {n : Type} [Fintype n] [DecidableEq n]

theorem qr_prefix (lt : n → n → Prop) [DecidableRel lt] (A A' Q Q' R R' : ℕ → Matrix n n K) (Rinv : Matrix n n K)
    (m : ℕ) (hA : ∀ d, d ≤ m → A d = A' d) (hQ0 : Q 0 = Q' 0) (hR0 : R 0 = R' 0)
    (st : ∀ d, 1 ≤ d → d ≤ m → QRStep lt A Q R Rinv d) (st' : ∀ d, 1 ≤ d → d ≤ m → QRStep lt A' Q' R' Rinv d) :
    ∀ d, d ≤ m → Q d = Q' d ∧ R d = R' d :=
  forall_le_of_step ⟨hQ0, hR0⟩ fun d h1 hd ih =>
    QRStep.unique h1 (hA d hd) (fun k hk => (ih k hk).1) (fun k hk => (ih k hk).2) (st d h1 hd) (st' d h1 hd)

theorem cholesky_prefix (lt : n → n → Prop) [DecidableRel lt] (A A' L L' : ℕ → Matrix n n K) (L0inv : Matrix n n K)
    (m : ℕ) (hA : ∀ d, d ≤ m → A d = A' d) (hL0 : L 0 = L' 0)
    (st : ∀ d, 1 ≤ d → d ≤ m → CholStep lt A L L0inv d) (st' : ∀ d, 1 ≤ d → d ≤ m → CholStep lt A' L' L0inv d) :
    ∀ d, d ≤ m → L d = L' d :=
  forall_le_of_step hL0 fun d h1 hd ih => CholStep.unique h1 (hA d hd) ih (st d h1 hd) (st' d h1 hd)

theorem lu_prefix (lt : n → n → Prop) [DecidableRel lt] (B B' L L' U U' : ℕ → Matrix n n K)
    (L0inv U0inv : Matrix n n K) (m : ℕ) (hB : ∀ d, d ≤ m → B d = B' d) (hL0 : L 0 = L' 0) (hU0 : U 0 = U' 0)
    (st : ∀ d, 1 ≤ d → d ≤ m → LUStep lt B L U L0inv U0inv d)
    (st' : ∀ d, 1 ≤ d → d ≤ m → LUStep lt B' L' U' L0inv U0inv d) :
    ∀ d, d ≤ m → L d = L' d ∧ U d = U' d :=
  forall_le_of_step ⟨hL0, hU0⟩ fun d h1 hd ih =>
    LUStep.unique h1 (hB d hd) (fun k hk => (ih k hk).1) (fun k hk => (ih k hk).2) (st d h1 hd) (st' d h1 hd)

theorem eigh_prefix (same : n → n → Prop) [DecidableRel same] (A A' Q Q' L L' : ℕ → Matrix n n K) (l : n → K)
    (Hm : Matrix n n K) (m : ℕ) (hA : ∀ d, d ≤ m → A d = A' d) (hQ0 : Q 0 = Q' 0) (hL0 : L 0 = L' 0)
    (st : ∀ d, 1 ≤ d → d ≤ m → Eigh1Step same A Q L l Hm d)
    (st' : ∀ d, 1 ≤ d → d ≤ m → Eigh1Step same A' Q' L' l Hm d) :
    ∀ d, d ≤ m → Q d = Q' d ∧ L d = L' d :=
  forall_le_of_step ⟨hQ0, hL0⟩ fun d h1 hd ih =>
    Eigh1Step.unique h1 (fun k hk => hA k (hk.trans hd)) (fun k hk => (ih k hk).1) (st d h1 hd) (st' d h1 hd)
end factor

/-- `D = 1` reproduces the plain function value (the leaf) -/
theorem exp_D1 (y0 x0 : K) : expS y0 [x0] = [y0] := by
  simp [expS, build, expStep]

theorem sqrt_D1 (y0 x0 : K) : sqrtS y0 [x0] = [y0] := by
  simp [sqrtS, build, sqrtStep]

theorem sincos_D1 (s0 c0 x0 : K) : sincosS s0 c0 [x0] = ([s0], [c0]) := by
  simp [sincosS, build, sincosStep]

example : (mulS [(1:ℚ), 2, 3, 4] [5, 6, 7, 8]).take 2 = mulS [1, 2] [5, 6] :=
  mul_prefix _ _ 2 (by decide)

section
open AV.Tape Polynomial
variable {S : Type} [CommRing S]

/-- truncation `S[t]/(t^D) → S[t]/(t^D')` for `D' ≤ D`, a ring homomorphism -/
noncomputable def truncHom (D D' : Nat) (h : D' ≤ D) :
    (S[X] ⧸ Ideal.span {(X : S[X]) ^ D}) →+* (S[X] ⧸ Ideal.span {(X : S[X]) ^ D'}) :=
  Ideal.Quotient.factor (Ideal.span_singleton_le_span_singleton.mpr (pow_dvd_pow X h))

theorem truncHom_mk (D D' : Nat) (h : D' ≤ D) (f : S[X]) :
    truncHom D D' h (Ideal.Quotient.mk _ f) = Ideal.Quotient.mk _ f :=
  Ideal.Quotient.factor_mk _ f

/-- **the reverse sweep commutes with every ring homomorphism** `φ` (tapes whose computations commute with `φ`) -/
theorem reverse_sweep_ring_hom {A B : Type} [CommRing A] [CommRing B] (φ : A →+* B) (t : List (Instr A)) (t' : List (Instr B))
    (hc : List.Forall₂ (Instr.Compat φ) t t') (h bar : Heap A) (c : Nat) :
    φ (rev t h bar c) = rev t' (fun i => φ (h i)) (fun i => φ (bar i)) c :=
  congrFun (rev_natural φ φ.map_add hc h bar) c

/-- **truncation**: the adjoints of a sweep with `D` coefficients, truncated to `D'` coefficients, are the adjoints of the
sweep of the truncated values and seeds -/
theorem reverse_sweep_truncation (D D' : Nat) (hD : D' ≤ D)
    (t : List (Instr (S[X] ⧸ Ideal.span {(X : S[X]) ^ D}))) (t' : List (Instr (S[X] ⧸ Ideal.span {(X : S[X]) ^ D'})))
    (hc : List.Forall₂ (Instr.Compat (truncHom D D' hD)) t t') (h bar : Heap (S[X] ⧸ Ideal.span {(X : S[X]) ^ D})) (c : Nat) :
    truncHom D D' hD (rev t h bar c) = rev t' (fun i => truncHom D D' hD (h i)) (fun i => truncHom D D' hD (bar i)) c :=
  reverse_sweep_ring_hom (truncHom D D' hD) t t' hc h bar c

/-- ring operations commute with truncation (so every polynomial program satisfies the hypothesis) -/
theorem ring_ops_truncation_compatible (D D' : Nat) (hD : D' ≤ D) (dst a b : Nat) :
    Comp.Compat (truncHom (S := S) D D' hD) (addComp dst a b) (addComp dst a b)
    ∧ Comp.Compat (truncHom (S := S) D D' hD) (subComp dst a b) (subComp dst a b)
    ∧ Comp.Compat (truncHom (S := S) D D' hD) (mulComp dst a b) (mulComp dst a b) :=
  ring_ops_compat _ dst a b

/-- non-vacuity: `c2 := c0 * c1; c0 := c2` with 3 coefficients is compatible with itself with 2 coefficients -/
example : List.Forall₂ (Instr.Compat (truncHom (S := ℤ) 3 2 (by decide)))
    [.comp (mulComp 2 0 1), .write 0 2] [.comp (mulComp 2 0 1), .write 0 2] :=
  .cons (.comp _ _ (mulComp_compat _ 2 0 1)) (.cons (.write 0 2) .nil)
end

end AV.C12
