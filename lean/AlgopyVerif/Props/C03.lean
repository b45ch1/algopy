import AlgopyVerif.Proofs.Tape
import AlgopyVerif.Model.Pullback
import AlgopyVerif.Proofs.PowerSeries
import AlgopyVerif.Proofs.MatPullback
import AlgopyVerif.Proofs.ArrayAdjoint
import AlgopyVerif.Proofs.Jacobi
import Mathlib.Tactic.LinearCombination
/-!
# C03 — reverse mode agrees with forward mode at every Taylor order

**Global theorem** (`reverse_is_adjoint_of_forward`): for every tape of `comp` instructions
(fresh cell := function of argument cells, with tangent `df` and pullback `pb` satisfying the local
adjoint condition `Comp.Adj`) and in-place `write`s (overwrites, also `buf[i] = buf[i]`), every
heap, every tangent `dh` and every seed `bar`, over any commutative ring `A`:

      ⟨rev tape h bar, dh⟩ = ⟨bar, tan tape h dh⟩ .

With `A = R[t]/(t^D)` (one copy per direction) this is the property's identity
`⟨xbar(t), v(t)⟩ = ⟨ybar(t), F'(x(t)) v(t)⟩ mod t^D`: array programs lower to cell-level tapes
(an element-wise operation with broadcasting is one `comp` per output cell, `sum/dot/trace` are
`comp`s of higher arity, views — `getitem`, `transpose`, contiguous `reshape` — are sub-arrays of
cell ids and generate no instruction, `setitem` is one `write` per cell).

**Local adjoint lemmas**, each mirroring a `pb_*` formula of the code: `add, sub, mul, truediv,
neg/scale, copy`, every unary function whose tangent is multiplication by `g = f'(x)` in `A`
(`exp: y`, `log: 1/x`, `sqrt: 1/(2y)`, `square: 2x`, `reciprocal: -1/x²`, `sin: c`, `cos: -s`,
`tan: z`, `pow`, the black/white family, the Faà-di-Bruno family), `sum` of any arity, `dot`.

**Series level**: the pullback kernels of `Model/Pullback.lean` (tied to the code by the
correspondence run for 25 unary + 4 binary kernels) are these ring expressions in `R[t]/(t^D)`
(`pullback_exp_is_ring_expr, pullback_log_is_ring_expr, pullback_div_is_ring_expr`).

**Matrix pullbacks** (`matrix_*` below, `Proofs/MatPullback.lean`), over any commutative ring `S`
(`= ℝ[t]/(t^D)`), with `⟪A,B⟫ = tr(AᵀB)`: `dot` (`Xbar = Zbar Yᵀ`, `Ybar = Xᵀ Zbar`), `inv`
(`Xbar = -Yᵀ Ybar Yᵀ`, tangent `-Y dX Y` derived from `XY = 1`), `solve` (`Bbar = Yᵀ Zbar`,
`Xbar = -Bbar Zᵀ`), `trace`, `transpose`, `det` (Jacobi's formula in algebraic form; `Xbar = ybar det(X) X⁻ᵀ`).
The C03 run compares `pb_dot, pb_inv, pb_solve, pb_trace, pb_det` of the code with exactly these formulas
evaluated in Taylor arithmetic.  **Symmetric eigendecomposition** (`matrix_eigh_tangent`, `matrix_eigh_adjoint`): from the
linearised defining equations, `dΛ = diag(QᵀdAQ)` and `dQ = Q (H ∘ QᵀdAQ)` with `H_mn (λ_n − λ_m) = 1` **in the
series ring** (a Taylor polynomial, not its order-0 value — the defect repaired in `_eigh_pullback`), and
`Abar = Q (Λbar + H ∘ (QᵀQbar)) Qᵀ` is the adjoint.

**Array level** (`gather_scatter_adjoint`, `reduction_adjoint`, `item_assignment_adjoint`): every cell-moving operation
(broadcasting, basic indexing / views, reshape, transpose, tile, diag) is a gather along an index map, not necessarily
injective, and its adjoint is the scatter-add (for broadcasting: the sum over the broadcast axes — what the repaired
`pb___setitem__` and the binary pullbacks do); reductions are the transposed pair; item assignment along an injective map masks
`ybar` outside the selection for the old contents and gathers it through the selection for the assigned value.

Not proved (partial): the lowering of the array-level tracer to tapes is argued, not mechanised;
the local adjoint conditions of the other factorization pullbacks (`logdet` through `lu2`, `qr, cholesky, lu,
svd`) — those are checked on the implementation by the adjoint-identity oracle.
-/
namespace AV.C03
variable {A : Type} [CommRing A]

section tape
open AV.Tape

theorem reverse_is_adjoint_of_forward (n : Nat) (tape : List (Instr A)) (h dh bar : Heap A)
    (hw : WF n tape h dh) : pair n (rev tape h bar) dh = pair n bar (tan tape h dh) :=
  tape_adjoint n tape h dh bar hw

/-- **superposition**: the reverse sweep is additive in the seed on every cell whose indicator is an admissible
tangent (an input cell: never the destination of a `comp`).  In particular, when an operand has a second
consumer recorded after an operation, its adjoint is the sum of the two separately seeded adjoints — the identity the
C03 run evaluates for every registered operation (a pullback that overwrites instead of accumulating breaks it). -/
theorem reverse_sweep_superposition (n : Nat) (tape : List (Instr A)) (h b1 b2 : Heap A) (c : Nat) (hc : c < n)
    (hw : WF n tape h (fun i => if i = c then 1 else 0)) :
    rev tape h (fun i => b1 i + b2 i) c = rev tape h b1 c + rev tape h b2 c := by
  -- entry `c` of an adjoint is its pairing with the unit tangent at `c`
  rw [← pair_unit_right hc (rev tape h (fun i => b1 i + b2 i)), ← pair_unit_right hc (rev tape h b1),
    ← pair_unit_right hc (rev tape h b2), tape_adjoint n tape h _ _ hw, tape_adjoint n tape h _ _ hw,
    tape_adjoint n tape h _ _ hw]
  unfold pair
  rw [← Finset.sum_add_distrib]
  exact Finset.sum_congr rfl fun i _ => by ring

theorem local_adjoint_unary (dst a : Nat) (f g : A → A) : (unaryComp dst a f g).Adj := by
  intro vals tans yb _ ht
  obtain ⟨t, rfl⟩ := List.length_eq_one_iff.mp ht
  exact ⟨rfl, by simp [unaryComp, mul_assoc]⟩

theorem local_adjoint_add (dst a b : Nat) : (addComp (A := A) dst a b).Adj :=
  Comp.adj_binary rfl fun _ _ s t yb => ⟨yb, yb, rfl, (mul_add yb s t).symm⟩

theorem local_adjoint_sub (dst a b : Nat) : (subComp (A := A) dst a b).Adj :=
  Comp.adj_binary rfl fun _ _ s t yb => ⟨yb, -yb, rfl, by dsimp only [subComp, List.headD, List.tail]; ring⟩

theorem local_adjoint_mul (dst a b : Nat) : (mulComp (A := A) dst a b).Adj :=
  Comp.adj_binary rfl fun x y s t yb => ⟨_, _, rfl, by dsimp only [mulComp, List.headD, List.tail]; ring⟩

theorem local_adjoint_div (dst a b : Nat) (inv : A → A) : (divComp dst a b inv).Adj :=
  Comp.adj_binary rfl fun x y s t yb => ⟨_, _, rfl, by dsimp only [divComp, List.headD, List.tail]; ring⟩

theorem local_adjoint_sum (dst : Nat) (args : List Nat) : (sumComp (A := A) dst args).Adj := by
  intro vals tans yb hv ht
  refine ⟨by simp [sumComp, hv], ?_⟩
  have hl : tans.length ≤ vals.length := by rw [hv, ht]
  simp only [sumComp, foldl_pair, List.zipWith_map_left, List.sum_zipWith_distrib_left]
  rw [← List.map_uncurry_zip_eq_zipWith]
  exact congrArg (yb * List.sum ·) (List.map_snd_zip hl)

theorem local_adjoint_scale (dst a : Nat) (c : A) : (scaleComp dst a c).Adj := local_adjoint_unary dst a _ _

theorem local_adjoint_copy (dst a : Nat) : (copyComp (A := A) dst a).Adj := local_adjoint_unary dst a _ _

theorem local_adjoint_dot (dst : Nat) (xs ys : List Nat) (hl : xs.length = ys.length) :
    (dotComp (A := A) dst xs ys).Adj := by
  intro vals tans yb hv ht
  simp only [dotComp, List.length_append] at hv ht ⊢
  have h1 : ((vals.drop xs.length).map (yb * ·)).length = (tans.take xs.length).length := by
    rw [List.length_map, List.length_drop, List.length_take]; omega
  refine ⟨by rw [List.length_map, List.length_map, List.length_drop, List.length_take]; omega, ?_⟩
  conv_lhs => rw [← List.take_append_drop xs.length tans]
  simp only [foldl_pair]
  rw [List.zipWith_append h1, List.sum_append, dot_map_mul_left, dot_map_mul_left, mul_add,
    List.zipWith_comm (as := List.drop xs.length vals)]
  simp only [mul_comm]

/-- the overwrite `cell d := cell s` is adjoint-correct also for `d = s` (repaired `pb___setitem__`) -/
theorem write_step_adjoint (n : Nat) (h dh bar : Heap A) (d s : Nat) (hd : d < n) (hs : s < n) :
    pair n (rev1 h bar (.write d s)) dh = pair n bar (tan1 h dh (.write d s)) :=
  step_adj n h dh bar (.write d s) ⟨hd, hs⟩

end tape

section
variable {K : Type} [Field K]
open PowerSeries

theorem pullback_exp_is_ring_expr (ybar y xbar : List K) (hl : ybar.length = xbar.length) (d : Nat) (hd : d < xbar.length) :
    co (pbExp ybar y xbar) d = coeff d (toPS xbar + toPS ybar * toPS y) := by
  unfold pbExp amulS
  rw [addS_co _ _ d hd, mulS_cauchy ybar y d (hl ▸ hd), map_add, coeff_toPS]

theorem pullback_log_is_ring_expr (ybar x xbar : List K) (hx : co x 0 ≠ 0) (hl : ybar.length = x.length) :
    pbLog ybar x xbar = addS xbar (mulS ybar (recipS x)) := by
  unfold pbLog
  rw [divS_eq_mul_recip ybar x hx hl]

theorem pullback_div_is_ring_expr (zbar y z xbar ybar : List K) (hy : co y 0 ≠ 0) (hl : zbar.length = y.length) :
    pbDiv zbar y z xbar ybar = (addS xbar (mulS zbar (recipS y)), subS ybar (mulS (mulS zbar (recipS y)) z)) := by
  unfold pbDiv
  simp only [divS_eq_mul_recip zbar y hy hl]
end

section
open AV.ArrayAdj
variable {ι κ : Type} [Fintype ι] [Fintype κ] [DecidableEq κ]

theorem gather_scatter_adjoint (m : ι → κ) (ybar : ι → A) (dx : κ → A) :
    ∑ i, ybar i * dx (m i) = ∑ j, scatterAdd m ybar j * dx j := by
  unfold scatterAdd
  rw [← Finset.sum_fiberwise (s := Finset.univ) (g := m) (f := fun i => ybar i * dx (m i))]
  refine Finset.sum_congr rfl fun j _ => ?_
  rw [Finset.sum_mul]
  exact Finset.sum_congr rfl fun i hi => by rw [(Finset.mem_filter.mp hi).2]

theorem reduction_adjoint (m : ι → κ) (ybar : κ → A) (dx : ι → A) :
    ∑ j, ybar j * scatterAdd m dx j = ∑ i, ybar (m i) * dx i := by
  have := gather_scatter_adjoint m dx ybar
  simp only [mul_comm] at this ⊢
  exact this.symm

theorem item_assignment_adjoint [DecidableEq ι] (m : ι → κ) (hm : Function.Injective m) (ybar dx : κ → A) (dv : ι → A) :
    ∑ j, ybar j * assign m dx dv j
      = (∑ j, (if ∃ i, m i = j then 0 else ybar j) * dx j) + ∑ i, ybar (m i) * dv i := by
  simp only [assign_eq m hm, mul_add, Finset.sum_add_distrib, reduction_adjoint, mul_ite, ite_mul, mul_zero, zero_mul]

/-- non-vacuity: broadcasting a length-1 axis to length 3 sums the three adjoints -/
example : scatterAdd (A := ℤ) (fun _ : Fin 3 => (0 : Fin 1)) (fun i => (i : ℤ) + 1) 0 = 6 := by
  decide
end

section
open Matrix AV.MatPB
variable {S : Type} [CommRing S] {n m k : Type} [Fintype n] [Fintype m] [Fintype k]
  [DecidableEq n] [DecidableEq m] [DecidableEq k]

theorem matrix_dot_adjoint (X dX : Matrix n m S) (Y dY : Matrix m k S) (Zbar : Matrix n k S) :
    pair Zbar (dX * Y + X * dY) = pair (Zbar * Yᵀ) dX + pair (Xᵀ * Zbar) dY := by
  rw [pair_add_right, pair_mul_right, pair_mul_left]

theorem matrix_inv_adjoint (X Y dX dY Ybar : Matrix n n S) (hYX : Y * X = 1) (hlin : dX * Y + X * dY = 0) :
    pair Ybar dY = pair (-(Yᵀ * (Ybar * Yᵀ))) dX := by
  -- `inv` is `solve` with the constant right-hand side `1`: `Z = Y`, `dB = 0`
  rw [solve_tangent X Y dX Y dY 0 hYX hlin, pair_mul_left, zero_sub, pair_neg_right, pair_mul_right, ← pair_neg_left,
    Matrix.mul_assoc]

theorem matrix_solve_adjoint (X Y dX : Matrix n n S) (Z dZ dB Zbar : Matrix n k S) (hYX : Y * X = 1)
    (hlin : dX * Z + X * dZ = dB) :
    pair Zbar dZ = pair (Yᵀ * Zbar) dB + pair (-(Yᵀ * Zbar * Zᵀ)) dX := by
  rw [solve_tangent X Y dX Z dZ dB hYX hlin, pair_mul_left, sub_eq_add_neg, pair_add_right, pair_neg_right, pair_mul_right,
    pair_neg_left]

theorem matrix_trace_adjoint (dX : Matrix n n S) (ybar : S) :
    ybar * dX.trace = pair (ybar • (1 : Matrix n n S)) dX := by
  rw [pair_smul_left, ← transpose_one, pair_transpose_eq_trace, Matrix.one_mul]

theorem matrix_transpose_adjoint (dX : Matrix n m S) (Ybar : Matrix m n S) : pair Ybar dXᵀ = pair Ybarᵀ dX := by
  rw [← pair_transpose, transpose_transpose]

/-- tangent of `eigh` from the linearised defining equations (no 2-torsion: `2` is a unit in `ℝ[t]/(t^D)`) -/
theorem matrix_eigh_tangent (A dA Q dQ : Matrix n n S) (l dl : n → S) (H : Matrix n n S)
    (hQtQ : Qᵀ * Q = 1) (hAQ : A * Q = Q * Matrix.diagonal l)
    (hlin : dA * Q + A * dQ = dQ * Matrix.diagonal l + Q * Matrix.diagonal dl)
    (hskew : Qᵀ * dQ + dQᵀ * Q = 0)
    (hH : ∀ a b, a ≠ b → H a b * (l b - l a) = 1) (hH0 : ∀ a, H a a = 0) (hsymA : Aᵀ = A)
    (h2 : ∀ a : S, a + a = 0 → a = 0) :
    (∀ a, dl a = (Qᵀ * dA * Q) a a) ∧ Qᵀ * dQ = had H (Qᵀ * dA * Q) := by
  -- with `C = QᵀdQ`, `M = QᵀdAQ`: the linearised equation multiplied by `Qᵀ` is `M + Λ C = C Λ + dΛ`
  have hQtA : Qᵀ * A = diagonal l * Qᵀ := by
    rw [← hsymA, ← transpose_mul, hAQ, transpose_mul, diagonal_transpose]
  have hkey : Qᵀ * dA * Q + diagonal l * (Qᵀ * dQ) = Qᵀ * dQ * diagonal l + diagonal dl := by
    have h := congrArg (Qᵀ * ·) hlin
    simp only [Matrix.mul_add, ← Matrix.mul_assoc, hQtA, hQtQ, Matrix.one_mul] at h
    simpa only [Matrix.mul_assoc] using h
  have hentry : ∀ a b, (Qᵀ * dA * Q) a b + l a * (Qᵀ * dQ) a b
      = (Qᵀ * dQ) a b * l b + (if a = b then dl a else 0) := fun a b => by
    have := congrFun (congrFun hkey a) b
    rwa [Matrix.add_apply, Matrix.add_apply, diagonal_mul, mul_diagonal, diagonal_apply] at this
  -- `C` is skew, so its diagonal vanishes
  have hCdiag : ∀ a, (Qᵀ * dQ) a a = 0 := fun a => by
    have := congrFun (congrFun hskew a) a
    rw [show dQᵀ * Q = (Qᵀ * dQ)ᵀ by rw [transpose_mul, transpose_transpose], Matrix.add_apply, transpose_apply] at this
    exact h2 _ this
  refine ⟨fun a => ?_, ?_⟩
  · have := hentry a a
    rw [if_pos rfl, hCdiag, mul_zero, zero_mul, add_zero, zero_add] at this
    exact this.symm
  · ext a b
    rw [had, of_apply]
    by_cases hab : a = b
    · rw [hab, hH0 b, zero_mul, hCdiag b]
    · have h1 := hentry a b
      rw [if_neg hab, add_zero] at h1
      linear_combination (-(H a b)) * h1 - ((Qᵀ * dQ) a b) * hH a b hab

/-- `_eigh_pullback`: `Abar = Q (Λbar + H ∘ (QᵀQbar)) Qᵀ` -/
theorem matrix_eigh_adjoint (dA Q Qbar : Matrix n n S) (lbar : n → S) (H : Matrix n n S) :
    pair (Matrix.diagonal lbar) (Matrix.of fun i j => if i = j then (Qᵀ * dA * Q) i j else 0)
        + pair Qbar (Q * had H (Qᵀ * dA * Q))
      = pair (Q * (Matrix.diagonal lbar + had H (Qᵀ * Qbar)) * Qᵀ) dA := by
  have e1 : pair (diagonal lbar) (Matrix.of fun i j => if i = j then (Qᵀ * dA * Q) i j else 0)
      = pair (diagonal lbar) (Qᵀ * dA * Q) := by
    rw [pair_eq_sum, pair_eq_sum]
    refine Finset.sum_congr rfl fun i _ => Finset.sum_congr rfl fun j _ => ?_
    by_cases h : i = j <;> simp [h]
  rw [e1, pair_mul_left Qbar, pair_had, pair_conj, pair_conj, ← pair_add_left, Matrix.mul_add, Matrix.add_mul]

theorem matrix_det_adjoint (X Y dX : Matrix n n S) (hXY : X * Y = 1) (ybar r : S) :
    (∃ c : S, (X + r • dX).det = X.det + X.det * (Y * dX).trace * r + c * r ^ 2)
    ∧ ybar * (X.det * (Y * dX).trace) = pair ((ybar * X.det) • Yᵀ) dX := by
  -- Jacobi's formula at an invertible matrix, where `adj X = det X · X⁻¹`
  obtain ⟨c, hc⟩ := AV.Jacobi.det_tangent_adjugate X dX r
  rw [AV.Jacobi.adjugate_eq_det_smul_inv X Y hXY, Matrix.smul_mul, Matrix.trace_smul, smul_eq_mul] at hc
  exact ⟨⟨c, hc⟩, by rw [pair_smul_left, pair_transpose_eq_trace, mul_assoc]⟩

/-- `pb_det` at **every** matrix, also a singular one (the branch that evaluates the adjugate division-free): the tangent of
`det` is `tr(adj(X) dX)` (Jacobi's formula without invertibility) and `Xbar = ybar · adj(X)ᵀ` is its adjoint; for an
invertible `X` the adjugate is `det X · X⁻¹`, the formula of the LU branch -/
theorem matrix_det_adjoint_every_matrix (X dX : Matrix n n S) (ybar r : S) :
    (∃ c : S, (X + r • dX).det = X.det + (X.adjugate * dX).trace * r + c * r ^ 2)
    ∧ ybar * (X.adjugate * dX).trace = pair (ybar • X.adjugateᵀ) dX
    ∧ (∀ Y : Matrix n n S, X * Y = 1 → X.adjugate = X.det • Y) :=
  ⟨AV.Jacobi.det_tangent_adjugate X dX r, by rw [pair_smul_left, pair_transpose_eq_trace],
   fun Y h => AV.Jacobi.adjugate_eq_det_smul_inv X Y h⟩
end

section
open AV.Tape
/-- non-vacuity: a two-instruction tape `c2 := c0 * c1; c0 := c2` over ℤ satisfies `WF` -/
example : WF (A := ℤ) 3 [.comp (mulComp 2 0 1), .write 0 2] (fun i => if i = 0 then 2 else if i = 1 then 3 else 0) (fun i => if i < 2 then 1 else 0) := by
  refine ⟨⟨local_adjoint_mul 2 0 1, by decide, ?_, by decide⟩, ⟨by decide, by decide⟩, trivial⟩
  intro a ha
  simp [mulComp] at ha
  rcases ha with rfl | rfl <;> decide
end

end AV.C03
