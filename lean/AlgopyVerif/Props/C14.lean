import AlgopyVerif.Proofs.Heap
/-!
# C14 — operands are never modified; aliased and in-place forms are safe

Coefficient-level heap programs (`Model/Heap.lean`) for the kernels that are run with
aliased buffers:

* `_mul(x, y, out=…)` (descending `d`, product array formed before it is summed into
  `out[d]`): with `out` aliasing `y`, `x`, or both (`x * x` written into `x`) the result
  is the Cauchy product of the *original* operands — `alias_out_*`;
* `x *= y` (`__imul__`, on the repaired code: the right operand is copied when it may
  share memory): the in-place loop computes `x * y` — `imul_eq_mul`; so `x *= x` equals
  `x *= copy(x)`;
* before the repair, `x *= x` read half-updated coefficients:
  `imul_self_counterexample_before_fix` (witness `[2,3,5]`: `[4,18,39] ≠ [4,12,29]`);
* `/`, `/=`, `_truediv`, `_itruediv`, `_square`, `_sqrt`, `_log`, `_reciprocal` build their
  result in a temporary and copy it to the output afterwards, so their aliased forms are
  the non-aliased function by construction (`divViaTemp`).

That no *public* operation modifies its arguments (the `clone()`-then-kernel pattern) and
that recording / the reverse sweep leave seeds and inputs untouched is checked on the
implementation by byte comparison in the C14 correspondence run (partial: no theorem).
-/
open AV
namespace AV.C14
variable {K : Type} [Field K]

/-- `_mul(x, y, out=y)` (used by `_pow_real` for `3 ≤ r ≤ 64` and by pullback kernels) -/
theorem alias_out_y (x y : List K) (hl : x.length = y.length) : mulOutAliasY x y = mulS x y := by
  unfold mulOutAliasY mulS
  rw [hl]
  -- `omega` knows `k ≤ d` under the `sumRange` binder from the congruence lemma `sumRange_congr'`
  exact desc_loop_eq _ (fun b d => sumRange 0 (d+1) fun k => co x k * co b (d-k)) y
    (fun b d hd => set_spec b d _ hd) fun b d hb => by simp (disch := omega) only [hb]

theorem alias_out_x (x y : List K) : mulOutAliasX x y = mulS x y :=
  desc_loop_eq _ (fun b d => sumRange 0 (d+1) fun k => co b k * co y (d-k)) x
    (fun b d hd => set_spec b d _ hd) fun b d hb => by simp (disch := omega) only [hb]

theorem alias_out_xy (x : List K) : mulOutAliasXY x = mulS x x :=
  desc_loop_eq _ (fun b d => sumRange 0 (d+1) fun k => co b k * co b (d-k)) x
    (fun b d hd => set_spec b d _ hd) fun b d hb => by simp (disch := omega) only [hb]

theorem imul_eq_mul (z y : List K) : imulS z y = mulS z y :=
  desc_loop_eq _ (fun b d => sumRange 0 (d+1) fun k => co b k * co y (d-k)) z
    (imulStep_spec y)
    fun b d hb => by simp (disch := omega) only [hb]

/-- hence `x *= x` (right operand snapshotted) equals `x * x` -/
theorem imul_self (x : List K) : imulS x x = mulS x x := imul_eq_mul x x

theorem imul_self_counterexample_before_fix :
    imulSelfUnrepaired [(2:ℚ), 3, 5] = [4, 18, 39] ∧ mulS [(2:ℚ), 3, 5] [2, 3, 5] = [4, 12, 29] := by
  constructor <;> decide +kernel

/-- aliased division = non-aliased division (result built in a temporary) -/
theorem alias_div (x y : List K) : divViaTemp x y = divS x y := rfl

example : mulOutAliasXY [(2:ℚ), 3, 5] = [4, 12, 29] := by decide +kernel
example : imulS [(2:ℚ), 3, 5] [2, 3, 5] = [4, 12, 29] := by decide +kernel

end AV.C14
