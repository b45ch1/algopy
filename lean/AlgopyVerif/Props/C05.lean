import AlgopyVerif.Proofs.Tracer
/-!
# C05 — replaying a recorded graph reproduces the program

Recording state machine (`Model/Tracer.lean`): for every finite sequence of operations
(overloaded calls on traced operands, `trace_off`, `trace_on`) from the empty graph:

* `recording_invariant`: `functionCount = len(functionList)`, the node at position `i` has
  `ID = i`, every argument ID is smaller than the ID of its user (operands are recorded before
  the operation that uses them);
* `one_node_per_operation`: each operation appends exactly one node while tracing is on and none
  while it is off; `nothing_recorded_while_off`; `recorded_nodes_are_stable` (later operations never
  change or reorder what was recorded).

Replay values: in the cell-level semantics a recorded graph *is* the program's tape
(`Proofs/Tape.lean: fwd`), so re-evaluation on new inputs is the program run on those inputs by
definition of the model; that the real `CGraph.pushforward` implements it (fresh buffers from
re-run `zeros` nodes, keyword arguments, constants as `Id` nodes, `Fout.x` updates) is what the
C05 correspondence run checks — partial: no theorem about the Python object graph.
-/
open AV.Tracer
namespace AV.C05

theorem recording_invariant (ops : List Op) (hw : WFOps ops {}) : Inv (run ops {}) :=
  run_inv ops {} inv_init hw

theorem one_node_per_operation (s : TState) (op : Op) :
    (step s op).nodes.length =
      match op with
      | .apply _ _ => if s.tracing then s.nodes.length + 1 else s.nodes.length
      | _ => s.nodes.length := by
  cases op <;> simp [step]
  split <;> simp

theorem nothing_recorded_while_off (ops : List Op) (s : TState) (hoff : s.tracing = false)
    (hno : ∀ op ∈ ops, op ≠ Op.traceOn) : (run ops s).nodes = s.nodes := by
  induction ops generalizing s with
  | nil => rfl
  | cons op ops ih =>
    have hs : (step s op).nodes = s.nodes ∧ (step s op).tracing = false := by
      cases op with
      | apply f a => simp [step, hoff]
      | traceOff => simp [step]
      | traceOn => exact absurd rfl (hno _ (List.mem_cons_self ..))
    exact (ih (step s op) hs.2 fun o ho => hno o (List.mem_cons_of_mem _ ho)).trans hs.1

theorem recorded_nodes_are_stable (ops : List Op) (s : TState) : s.nodes <+: (run ops s).nodes := by
  induction ops generalizing s with
  | nil => exact List.prefix_refl _
  | cons op ops ih => exact (step_prefix s op).trans (ih (step s op))

/-- non-vacuity: `x; y; x*y; trace_off; x+y` records three nodes with IDs 0,1,2 -/
example : ((run [.apply 0 [], .apply 0 [], .apply 1 [.node 0, .node 1], .traceOff, .apply 2 [.node 0, .node 1]] {}).nodes.map (·.id)) = [0, 1, 2] := by
  decide

end AV.C05
