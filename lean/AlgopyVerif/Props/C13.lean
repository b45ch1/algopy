import AlgopyVerif.Proofs.Index
/-!
# C13 — shape-manipulating operations act slice-wise like NumPy, with view semantics

L1 model of NumPy's basic indexing (`Model/Index.lean`: ints, negative ints, slices with steps and
out-of-range / `None` bounds, `Ellipsis`, `newaxis`), validated against the real NumPy by the
"mini-NumPy vs NumPy" stream of the C13 run (random and, in the thorough tier, exhaustive small index
expressions).  Theorems, for every `D`, `P`, shape and index expression:

* `getitem_prefix_law`: indexing `(D,P)+shape` data with `(:, :) ++ idx` (what `UTPM.__getitem__`
  does) yields shape `(D,P)+shape'` and maps `(d, p, j) ↦ (d, p, m j)` where `(shape', m)` is the
  result of `idx` on a single coefficient slice;
* `getitem_slicewise`: hence `x[idx].data[d,p] = x.data[d,p][idx]` element by element — and, read with
  cell identifiers as elements, `x[idx]` consists of cells of `x` (a view; that writing through it updates the
  parent is checked on the implementation by the C13 run, it is not a theorem);
* `sum_axis_nonneg`, `sum_axis_neg`: the axis arithmetic of `UTPM.sum`.

* `index_map_injective`: every basic index expression selects each cell at most once (strides are non-zero and
  no result index is sent to a negative source coordinate), which makes assignment well defined;
* `setitem_slicewise`: `x[idx] = v` (UTPM `v`, NumPy-broadcast) puts `v[d, p, ·]` into the selected cells of
  coefficient slice `(d, p)` and leaves every other cell of `x` untouched (that the selected position `m j` is a valid
  index of the slice is a hypothesis);
* `setitem_constant`: `x[idx] = c` for a plain array / scalar sets the zeroth coefficient of the selected cells to
  `c` and clears all their higher coefficients.

`reshape, transpose, tile, diag, triu/tril, trace, conj/real/imag, fft/ifft, zeros/ones(-like),
symvec/vecsym` are checked slice-wise against NumPy on the implementation
(partial: no theorem; `reshape`/`transpose`/`sum(axis)` additionally against the model).  Item assignment of the
real code is compared with the model functions `utSetitem`, `utSetitemConst` on every generated case.
-/
open AV NdArray
namespace AV.C13

theorem getitem_prefix_law (D P : Nat) (s : List Nat) (idx : List Idx) (s' : List Nat) (m : List Nat → List Nat)
    (h : getitemMap s idx = some (s', m)) :
    ∃ m', getitemMap (D :: P :: s) (fullSl :: fullSl :: idx) = some (D :: P :: s', m') ∧
      ∀ d p j, m' (d :: p :: j) = d :: p :: m j := getitemMap_prefix D P h

theorem getitem_slicewise {α} [Inhabited α] (x y : NdArray α) (D P : Nat) (s : List Nat) (idx : List Idx)
    (s' : List Nat) (m : List Nat → List Nat) (hx : x.shape = D :: P :: s)
    (hm : getitemMap s idx = some (s', m)) (hy : utGetitem x idx = some y)
    (d p : Nat) (j : List Nat) (hv : ValidIdx (D :: P :: s') (d :: p :: j)) :
    y.shape = D :: P :: s' ∧ y.get (d :: p :: j) = x.get (d :: p :: m j) := by
  obtain ⟨m', hm', hlaw⟩ := getitemMap_prefix D P hm
  unfold utGetitem getitem at hy
  rw [hx, hm'] at hy
  cases hy
  exact ⟨rfl, by rw [get_ofFn _ _ _ hv, hlaw]⟩

theorem sum_axis_nonneg {α} [Inhabited α] [Add α] [Zero α] (x : NdArray α) (axis : Nat) :
    utSumAxis x (axis : Int) = sumAxis x (axis + 2) := by
  unfold utSumAxis
  rw [if_neg (by omega)]
  simp

theorem sum_axis_neg {α} [Inhabited α] [Add α] [Zero α] (x : NdArray α) (k : Nat) (hk : 0 < k) (hk2 : k ≤ x.shape.length) :
    utSumAxis x (-(k : Int)) = sumAxis x (x.shape.length - k) := by
  have h : (-(k : Int)) < 0 := by omega
  rw [utSumAxis, if_pos h, ← Int.sub_eq_add_neg, ← Int.ofNat_sub hk2, Int.toNat_natCast]

theorem index_map_injective (shape : List Nat) (idx : List Idx) (s : List Nat) (m : List Nat → List Nat)
    (h : getitemMap shape idx = some (s, m)) (j j' : List Nat) (hj : ValidIdx s j) (hj' : ValidIdx s j')
    (he : m j = m j') : j = j' := getitemMap_injective h hj hj' he

theorem setitem_slicewise {α} [Inhabited α] (x v y : NdArray α) (D P : Nat) (s : List Nat) (idx : List Idx) (s' : List Nat)
    (m : List Nat → List Nat) (hx : x.shape = D :: P :: s) (hm : getitemMap s idx = some (s', m))
    (hy : utSetitem x idx v = some y) (d p : Nat) (hd : d < D) (hp : p < P) :
    (∀ j, ValidIdx s' j → ValidIdx s (m j) → y.get (d :: p :: m j) = v.get (d :: p :: bidx (v.shape.drop 2) j))
    ∧ (∀ i, ValidIdx s i → (∀ j, ValidIdx s' j → m j ≠ i) → y.get (d :: p :: i) = x.get (d :: p :: i)) :=
  setitemWith_slicewise hx hm hy hd hp

theorem setitem_constant {α} [Inhabited α] [Zero α] (x c y : NdArray α) (D P : Nat) (s : List Nat) (idx : List Idx)
    (s' : List Nat) (m : List Nat → List Nat) (hx : x.shape = D :: P :: s) (hm : getitemMap s idx = some (s', m))
    (hy : utSetitemConst x idx c = some y) (d p : Nat) (hd : d < D) (hp : p < P) (j : List Nat)
    (hj : ValidIdx s' j) (hmj : ValidIdx s (m j)) :
    y.get (d :: p :: m j) = if d = 0 then c.get (bidx c.shape j) else 0 :=
  (setitemWith_slicewise hx hm hy hd hp).1 j hj hmj

/-- non-vacuity: `a[::-1, -1]` on a `2×3` array -/
example : (getitemMap [2, 3] [.slice none none (some (-1)), .int (-1)]).map (fun r => (r.1, r.2 [0], r.2 [1]))
    = some ([2], [1, 2], [0, 2]) := by decide

end AV.C13
