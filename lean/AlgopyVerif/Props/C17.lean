import AlgopyVerif.Proofs.Lift
import AlgopyVerif.Proofs.Convert
import AlgopyVerif.Proofs.Pivot
/-!
# C17 — conversions between representations are lossless and mutually inverse

* `shift`: `shift(shift(x, s), -s)` is `x` with the last `s` coefficients cleared,
  `shift(shift(x, -s), s)` is `x` with the first `s` cleared, `shift(x, 0) = x` (on the
  repaired code: `shift(0)` used to raise); `shift_overshift`: a shift by `|s| ≥ D` gives the zero polynomial;
* `symvec`/`vecsym` (all three storage conventions), all `N`;
* `base_and_dirs2utpm` / `utpm2base_and_dirs`, all shapes, `D`, `P`;
* pivot vectors: the permutation `τ₀…τ_{N-1}` built by `piv2mat` has sign, and its
  permutation matrix has determinant, `(-1)^{#{i : piv i ≠ i}}` = `piv2det`, for **all** `N`
  and all pivot vectors.

Tied to the code by the C17 correspondence run (incl. all pivot vectors for `N ≤ 5`
exhaustively against `scipy.linalg.lu_factor`).  `pivot_loop_is_permutation`: the list-level loop of
`utils.piv2mat` (`swap = arange(N); for i: exchange swap[i], swap[piv[i]]`) produces exactly that
permutation, and `eye(N)[:, swap]` is the transposed permutation matrix (`pivot_matrix_entries`).
`container_shape`, `container_element`: `as_utpm` / `ndarray2utpm` on containers of polynomials of equal coefficient shape.
Not a theorem: `combine_blocks`, constants / mixed element kinds inside a container (partial).
-/
open Equiv
namespace AV.C17
section
variable {K : Type} [Field K]

theorem shift_zero (x : List K) : shiftS 0 x = x :=
  list_ext_co (shiftS_length 0 x) fun d hd => by
    rw [shiftS_length] at hd
    exact co_shiftS_down 0 hd

theorem shift_overshift (s : Int) (x : List K) (h : x.length ≤ s.natAbs) :
    shiftS s x = List.replicate x.length 0 := by
  refine (eq_map_range_of_co (fun _ => 0) (shiftS_length s x) fun d hd => ?_).trans (by simp)
  obtain ⟨n, rfl | rfl⟩ := s.eq_nat_or_neg
  · rw [co_shiftS_up n hd, if_pos (by omega)]
  · rw [co_shiftS_down n hd, co_of_ge x _ (by omega)]

example : shiftS (-3 : Int) [(1:ℚ), 2] = [0, 0] := by decide +kernel

theorem shift_roundtrip_up_down (s : Nat) (x : List K) (hs : s ≤ x.length) :
    shiftS (-(s:Int)) (shiftS (s:Int) x)
      = (List.range x.length).map fun d => if d + s < x.length then co x d else 0 :=
  eq_map_range_of_co _ (by simp) fun d hd => by
    rw [co_shiftS_down _ (by rwa [shiftS_length])]
    split
    · rw [co_shiftS_up _ ‹_›, if_neg (by omega), Nat.add_sub_cancel]
    · exact co_of_ge _ _ (by rw [shiftS_length]; omega)

theorem shift_roundtrip_down_up (s : Nat) (x : List K) (hs : s ≤ x.length) :
    shiftS (s:Int) (shiftS (-(s:Int)) x)
      = (List.range x.length).map fun d => if d < s then 0 else co x d :=
  eq_map_range_of_co _ (by simp) fun d hd => by
    rw [co_shiftS_up _ (by rwa [shiftS_length])]
    split
    · rfl
    · rw [co_shiftS_down _ (by omega), Nat.sub_add_cancel (by omega)]
end

section
variable {K : Type} [Field K] [CharZero K]

theorem vecsym_symvec_full (N : Nat) (A : Nat → Nat → K) (hA : ∀ r c, A r c = A c r) (r c : Nat)
    (hr : r < N) (hc : c < N) : vecsymF N (symvecF N 'F' A) r c = A r c := by
  rw [symvecF, vecsymF_map _ hr hc]
  show (A (min r c) (max r c) + A (max r c) (min r c)) / nat 2 = A r c
  rw [hA (max r c), half_add_self]
  rcases le_total r c with h | h
  · rw [min_eq_left h, max_eq_right h]
  · rw [min_eq_right h, max_eq_left h, hA]

-- `vecsymF_map _` finds `g` by unification; that `'L'`, `'U'` are not `'F'` is decided by evaluation
theorem vecsym_symvec_lower (N : Nat) (A : Nat → Nat → K) (r c : Nat) (hr : r < N) (hc : c < N) :
    vecsymF N (symvecF N 'L' A) r c = A (max r c) (min r c) := vecsymF_map _ hr hc

theorem vecsym_symvec_upper (N : Nat) (A : Nat → Nat → K) (r c : Nat) (hr : r < N) (hc : c < N) :
    vecsymF N (symvecF N 'U' A) r c = A (min r c) (max r c) := vecsymF_map _ hr hc

theorem symvec_vecsym_id (N : Nat) (v : List K) (hv : v.length = (triPairs N).length) :
    symvecF N 'F' (vecsymF N v) = v := by
  obtain ⟨g, rfl⟩ : ∃ g, v = (triPairs N).map g := ⟨_, (map_co_idxOf (nodup_triPairs N) hv).symm⟩
  refine List.map_congr_left fun ⟨r, c⟩ hrc => ?_
  obtain ⟨h, hc⟩ := mem_triPairs.mp hrc
  simp only [if_true]
  rw [vecsymF_map g (h.trans_lt hc) hc, vecsymF_map g hc (h.trans_lt hc), min_eq_left h, max_eq_right h, min_eq_right h,
    max_eq_left h, half_add_self]
end

section
variable {K : Type} [Field K]
attribute [local instance] inh0

theorem base_and_dirs_roundtrip_base (x V : NdArray K) (s : List Nat) (P D : Nat) (hx : x.shape = s)
    (hV : V.shape = s ++ [P, D]) (hP : 0 < P) (idx : List Nat) (h : ValidIdx s idx) :
    (utpm2baseDirs (baseDirs2utpm x V)).1.get idx = x.get idx := by
  rw [utpm2baseDirs, utShape_eq (baseDirs2utpm_shape hx hV), get_ofFn _ _ _ h,
    get_baseDirs2utpm (d := 0) (p := 0) hx hV ⟨D.succ_pos, hP, h⟩, if_pos rfl]

theorem base_and_dirs_roundtrip_dirs (x V : NdArray K) (s : List Nat) (P D : Nat) (hx : x.shape = s)
    (hV : V.shape = s ++ [P, D]) (idx : List Nat) (h : ValidIdx s idx) (p d : Nat) (hp : p < P) (hd : d < D) :
    (utpm2baseDirs (baseDirs2utpm x V)).2.get (idx ++ [p, d]) = V.get (idx ++ [p, d]) := by
  obtain ⟨e1, e2, e3⟩ := append_two p d (validIdx_length h)
  have hs := baseDirs2utpm_shape hx hV
  rw [utpm2baseDirs, utShape_eq hs, utP_eq hs, utD_eq hs, Nat.add_sub_cancel,
    get_ofFn _ _ _ (validIdx_append h (show ValidIdx [P, D] [p, d] from ⟨hp, hd, trivial⟩))]
  simp only [e1, e2, e3]
  rw [get_baseDirs2utpm (d := d + 1) hx hV ⟨Nat.succ_lt_succ hd, hp, h⟩, if_neg d.succ_ne_zero, Nat.add_sub_cancel]

/-- `as_utpm` / `ndarray2utpm` on a container of shape `outer` of polynomials with equal coefficient shape `(D, P) + e` (stacked
as `X` of shape `(n, D, P) + e`): the result has shape `(D, P) + outer + e` … -/
theorem container_shape (outer e : List Nat) (X : NdArray K) (n D P : Nat) (hX : X.shape = n :: D :: P :: e) :
    (containerToUtpm outer X).shape = D :: P :: (outer ++ e) := by
  rw [containerToUtpm, hX]
  rfl

/-- … and entry `o` of it is element `ravel o` of the container, coefficient by coefficient (nothing is lost or mixed) -/
theorem container_element (outer e : List Nat) (X : NdArray K) (n D P : Nat) (hX : X.shape = n :: D :: P :: e)
    (d p : Nat) (hd : d < D) (hp : p < P) (o ei : List Nat) (ho : ValidIdx outer o) (he : ValidIdx e ei) :
    (containerToUtpm outer X).get (d :: p :: (o ++ ei)) = X.get (NdArray.ravel outer o :: d :: p :: ei) := by
  unfold containerToUtpm
  simp only [hX, List.getD_cons_succ, List.getD_cons_zero, List.drop_succ_cons, List.drop_zero]
  have hv : ValidIdx (D :: P :: (outer ++ e)) (d :: p :: (o ++ ei)) := ⟨hd, hp, validIdx_append ho he⟩
  rw [get_ofFn _ _ _ hv]
  simp [← validIdx_length ho]

/-- non-vacuity: `[1, 0]` is a valid index of a `2 × 3` container -/
example : ValidIdx [2, 3] [1, 0] := by simp [ValidIdx]
end

theorem pivot_sign {N : ℕ} (piv : Fin N → Fin N) :
    Perm.sign (pivPerm piv) = (-1 : ℤˣ) ^ ((List.finRange N).filter fun i => piv i ≠ i).length :=
  sign_list_prod_swaps _ piv

theorem pivot_matrix_det {N : ℕ} {R : Type} [CommRing R] (piv : Fin N → Fin N) :
    Matrix.det ((pivPerm piv).permMatrix R)
      = ((-1 : ℤˣ) ^ ((List.finRange N).filter fun i => piv i ≠ i).length : ℤˣ) := by
  rw [Matrix.det_permutation, pivot_sign]

theorem pivot_loop_is_permutation {N : ℕ} (piv : Fin N → Fin N) :
    pivSwap (List.ofFn fun i => (piv i).val) = List.ofFn fun j => (pivPerm piv j).val :=
  pivSwap_eq_pivPerm piv

theorem pivot_matrix_entries {N : ℕ} (piv : Fin N → Fin N) (i j : Fin N) :
    piv2matF (List.ofFn fun i => (piv i).val) i.val j.val
      = if i = pivPerm piv j then 1 else 0 := by
  rw [piv2matF, pivSwap_eq_pivPerm piv, getD_ofFn]
  simp only [Fin.val_inj]

example : shiftS (1:Int) [(1:ℚ), 2, 3] = [0, 1, 2] := by decide +kernel
example : pivSwap [2, 2, 2] = [2, 0, 1] := by decide
example : triPairs 3 = [(0,0),(0,1),(0,2),(1,1),(1,2),(2,2)] := by decide

end AV.C17
