import AlgopyVerif.Proofs.Interp
import AlgopyVerif.Proofs.GammaGeneral
/-!
# C15 — exact-interpolation coefficients reconstruct mixed partial derivatives

* `multi_indices_complete`, `multi_indices_nodup`: for all `N ≥ 1`, `d`: the multi-index list contains exactly
  the lists of length `N` with sum `d`, each once (every monomial of degree `d` exactly once).
* `Gamma_identity_every_N_d`: `Σ_j Γ[i,j]·ray_j^α = δ(i,α)` for all multi-indices `i, α` of degree `d`, for every `N ≥ 1` and
  every `d ≥ 1`, on the model of `exact_interpolation.py` (`gamma`, `multiIndices`; the rays are the multi-indices).  The
  property asks for exhaustive exploration up to a bound in exact rational arithmetic; the theorem has no bound
  (`Proofs/GammaGeneral.lean`).
* `Gamma_identity_1_1` … `Gamma_identity_6_2` (the theorems `Gamma_identity_<N>_<d>`): its instances at the `(N, d)` of the table
  on which the correspondence run compares the implementation with the model (the entries `(4,4), (3,5), (5,3)` of the thorough tier in `Props/C15Big.lean`).
* `Gamma_identity_one_variable`: the case `N = 1` of it (every degree `d ≥ 1`); there `Γ` is the single entry
  `γ(d,d) = d^{-d}` (`Gamma_one_variable_value`, read off the identity at `i = α = [d]`).
* `tensor_reconstruction`: hence `Σ_j Γ[i,j]·c_d(ray_j) = a_i` for every form `c_d(v) = Σ_α a_α v^α` of degree `d` (every `N`, `d`,
  every field of characteristic zero).
  Not proved (partial): that the float implementation stays close to the exact `Γ` for large `d` (cancellation; the
  correspondence run compares it with the exact model for the table).
-/
open AV.Interp
namespace AV.C15

theorem multi_indices_complete (N d : Nat) (i : List Nat) :
    i ∈ multiIndices (N+1) d ↔ i.length = N+1 ∧ i.sum = d := mem_multiIndices_succ N d i

theorem multi_indices_nodup (N d : Nat) : (multiIndices N d).Nodup := nodup_multiIndices N d

theorem Gamma_identity_every_N_d (N d : Nat) (hN : 0 < N) (hd : 0 < d) : checkIdentity N d = true := by
  obtain ⟨M, rfl⟩ := Nat.exists_eq_succ_of_ne_zero hN.ne'
  simp only [checkIdentity, List.all_eq_true]
  intro i hi a ha
  rw [← List.foldl_map (g := (· + ·)), ← List.sum_eq_foldl, gamma_sum M d hd i a hi ha]
  simp

theorem Gamma_identity_one_variable (d : Nat) (hd : 0 < d) : checkIdentity 1 d = true :=
  Gamma_identity_every_N_d 1 d (by decide) hd

/-- the identity at `i = α = [d]` reads `γ(d,d) · d^d = 1` -/
theorem Gamma_one_variable_value (d : Nat) (hd : 0 < d) : gamma [d] [d] = 1 / (d : ℚ) ^ d := by
  have h := gamma_sum 0 d hd [d] [d] (by simp [multiIndices]) (by simp [multiIndices])
  rw [sum_multiIndices_one, miPow_cons, miPow_nil, mul_one, if_pos rfl] at h
  exact eq_one_div_of_mul_eq_one_left h

/-- **the "hence" of the property**: whenever the `d`-th Taylor coefficient of a program along a direction `v` is a form of degree
`d` in `v`, `c_d(v) = Σ_{|α| = d} a_α v^α` (for a `C^d` function this is the multivariate Taylor formula with `a_α = ∂^α F(x)/α!`;
that formula itself is not restated here), the product of `Γ` with the coefficients along the rays returns every `a_i` — for every
`N ≥ 1`, every `d ≥ 1`, every coefficient family `a` in every field of characteristic zero.  This is what
`UTPM.extract_tensor ∘ program ∘ UTPM.init_tensor` computes. -/
theorem tensor_reconstruction (N d : Nat) (hd : 0 < d) {K : Type*} [Field K] [CharZero K] (a : List Nat → K) (i : List Nat)
    (hi : i ∈ multiIndices (N + 1) d) :
    ((multiIndices (N + 1) d).map fun j =>
        ((gamma i j : ℚ) : K) * ((multiIndices (N + 1) d).map fun α => a α * ((miPow j α : ℚ) : K)).sum).sum = a i := by
  -- the Γ identity cast into `K`, against the coefficient `a α`
  have key : ∀ α ∈ multiIndices (N + 1) d,
      ((multiIndices (N + 1) d).map fun j => a α * (((gamma i j : ℚ) : K) * ((miPow j α : ℚ) : K))).sum
        = if α = i then a α else 0 := by
    intro α hα
    have h := congrArg (Rat.cast : ℚ → K) (gamma_sum N d hd i α hi hα)
    rw [Rat.cast_list_sum, List.map_map] at h
    simp only [Function.comp_def, Rat.cast_mul] at h
    rw [List.sum_map_mul_left, h]
    by_cases hc : α = i <;> simp [hc, Ne.symm]
  simp_rw [← List.sum_map_mul_left, mul_left_comm _ (a _)]
  rw [list_sum_comm, List.map_congr_left key, ← List.sum_toFinset _ (nodup_multiIndices _ _), Finset.sum_ite_eq',
    if_pos (List.mem_toFinset.mpr hi)]

theorem Gamma_identity_1_1 : checkIdentity 1 1 = true := Gamma_identity_every_N_d 1 1 (by decide) (by decide)
theorem Gamma_identity_1_2 : checkIdentity 1 2 = true := Gamma_identity_every_N_d 1 2 (by decide) (by decide)
theorem Gamma_identity_1_3 : checkIdentity 1 3 = true := Gamma_identity_every_N_d 1 3 (by decide) (by decide)
theorem Gamma_identity_1_4 : checkIdentity 1 4 = true := Gamma_identity_every_N_d 1 4 (by decide) (by decide)
theorem Gamma_identity_1_5 : checkIdentity 1 5 = true := Gamma_identity_every_N_d 1 5 (by decide) (by decide)
theorem Gamma_identity_2_1 : checkIdentity 2 1 = true := Gamma_identity_every_N_d 2 1 (by decide) (by decide)
theorem Gamma_identity_2_2 : checkIdentity 2 2 = true := Gamma_identity_every_N_d 2 2 (by decide) (by decide)
theorem Gamma_identity_2_3 : checkIdentity 2 3 = true := Gamma_identity_every_N_d 2 3 (by decide) (by decide)
theorem Gamma_identity_2_4 : checkIdentity 2 4 = true := Gamma_identity_every_N_d 2 4 (by decide) (by decide)
theorem Gamma_identity_2_5 : checkIdentity 2 5 = true := Gamma_identity_every_N_d 2 5 (by decide) (by decide)
theorem Gamma_identity_3_1 : checkIdentity 3 1 = true := Gamma_identity_every_N_d 3 1 (by decide) (by decide)
theorem Gamma_identity_3_2 : checkIdentity 3 2 = true := Gamma_identity_every_N_d 3 2 (by decide) (by decide)
theorem Gamma_identity_3_3 : checkIdentity 3 3 = true := Gamma_identity_every_N_d 3 3 (by decide) (by decide)
theorem Gamma_identity_4_1 : checkIdentity 4 1 = true := Gamma_identity_every_N_d 4 1 (by decide) (by decide)
theorem Gamma_identity_4_2 : checkIdentity 4 2 = true := Gamma_identity_every_N_d 4 2 (by decide) (by decide)
theorem Gamma_identity_5_1 : checkIdentity 5 1 = true := Gamma_identity_every_N_d 5 1 (by decide) (by decide)
theorem Gamma_identity_5_2 : checkIdentity 5 2 = true := Gamma_identity_every_N_d 5 2 (by decide) (by decide)
theorem Gamma_identity_6_2 : checkIdentity 6 2 = true := Gamma_identity_every_N_d 6 2 (by decide) (by decide)
theorem Gamma_identity_3_4 : checkIdentity 3 4 = true := Gamma_identity_every_N_d 3 4 (by decide) (by decide)
theorem Gamma_identity_4_3 : checkIdentity 4 3 = true := Gamma_identity_every_N_d 4 3 (by decide) (by decide)

example : (multiIndices 3 2).length = 6 := by decide
example : gamma [2, 0] [2, 0] ≠ 0 := by decide +kernel
/-- the hypothesis `hi` of `tensor_reconstruction` at the mixed partial of `(N, d) = (2, 2)` -/
example : [1, 1] ∈ multiIndices (1 + 1) 2 := by decide

end AV.C15
