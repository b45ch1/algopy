import AlgopyVerif.Proofs.Linalg
import Mathlib.LinearAlgebra.Matrix.Permutation
import AlgopyVerif.Proofs.Pade
import AlgopyVerif.Proofs.FaddeevLeVerrier
/-!
# C07 — linear-algebra functions propagate matrix Taylor polynomials correctly

The kernels `_dot`, `_inv`, `_solve`, `_solve_non_UTPM_x` are modelled generically over a (non-commutative) ring `R` of coefficients
— `R = Matrix (Fin n) (Fin n) K` in the theorems, a concrete matrix type in the driver — with the NumPy results on the zeroth
coefficient (`numpy.linalg.inv(A_0)`, `numpy.linalg.solve(A_0, ·)`) as leaf parameters.  For all `D`, all sizes:

* `dot_is_cauchy_product`: `dot(X, Y)_d = Σ_{c≤d} X_c Y_{d-c}`;
* `inv_right_inverse`, `inv_left_inverse`: `A(t) · inv(A)(t) = I` and `inv(A)(t) · A(t) = I` modulo `t^D` from the same at order zero;
* `solve_spec`, `solve_const_rhs_spec`, `solve_unique`: `A(t) · X(t) = B(t)` modulo `t^D` from `A_0 · A_0⁻¹ = I`, also for a constant
  right-hand side, and the solution is unique modulo `t^D`; `solve_rectangular_*`: the same for `n × k` right-hand sides;
* `det_through_lu`: in any commutative ring (instantiate with `ℝ[t]/(t^D)`), `W L U = A` with `L` unit lower and `U` upper
  triangular gives `det A = det W · ∏ Uᵢᵢ` — the formula `UTPM.det` evaluates; the LU identity itself is C08's `lu_defining_equation`;
* `logdet_through_lu`, `logdet_through_lu_pos`: `log|det A| = Σ log|Uᵢᵢ|`, the formula `UTPM.logdet` evaluates, pointwise along the
  curve (so the Taylor coefficients agree by the `log` / `abs` kernel theorems and the `JetOf` closure of C01); it is `log(det A)`
  when the determinant is positive;
* `expm_pade_evaluation`, `expm_pade_tables_match_exp`, `expm_pade_order_sharp`: the even/odd evaluation of `_expm_pade<q>` gives
  `U + V = N(x)`, `V − U = N(−x)` with the code's coefficient tables (tied to the code by evaluating `_expm_pade<q>` on 1×1
  arguments), and `N(−X)·exp(X) ≡ N(X)` modulo `X^(2q+1)`, not modulo `X^(2q+2)`, in `ℚ⟦X⟧` for `q ∈ {3,5,7,9,13}`: `expm_pade` returns
  the `[q/q]` Padé approximant of `exp`;
* `det_fallback_every_size` (`det_fallback_small_sizes`: the sizes the run exercises): the division-free Faddeev–LeVerrier recursion
  `UTPM._det_adj` (used by `det` / `pb_det` when the zeroth coefficient is singular) returns the determinant and the adjugate for every
  size `N ≥ 1` over every field of characteristic zero — so over the Laurent series `ℝ((t))`, which contain the power series; the
  recursion divides by the integers `2..N` only and therefore stays inside `ℝ⟦t⟧`, where truncation modulo `t^D` is a ring homomorphism.

Not proved (partial): the size of the Padé remainder for a matrix of given norm (the thresholds of `expm_higham_2005`) — these are
checked on the implementation against independent formulas (Leibniz determinant and exponential series
in Taylor arithmetic, residuals).
-/
open Finset
namespace AV.C07
variable {R : Type} [Ring R]

theorem dot_is_cauchy_product (x y : List R) (d : Nat) (h : d < x.length) :
    coR (dotM x y) d = ∑ c ∈ range (d+1), coR x c * coR y (d-c) := by
  simpa only [dotM_eq_mulS, coR_eq_co] using mulS_co x y d h

/-- constant right-hand side (`_solve_non_UTPM_x`) -/
theorem solve_const_rhs_spec (a : List R) (a0inv b0 : R) (h0 : coR a 0 * a0inv = 1) (d : Nat) (h : d < a.length) :
    ∑ k ∈ range (d+1), coR a k * coR (solveConstBM a a0inv b0) (d-k) = if d = 0 then b0 else 0 :=
  (solveMod_spec a a0inv _ h0 d (by simpa using h)).trans (co_map_range h)

theorem inv_right_inverse (x : List R) (y0 : R) (h0 : coR x 0 * y0 = 1) (d : Nat) (h : d < x.length) :
    ∑ k ∈ range (d+1), coR x k * coR (invM x y0) (d-k) = if d = 0 then 1 else 0 := by
  -- `_inv` is `_solve` with the constant right-hand side `1`
  rw [invM_eq_solveConstBM]
  exact solve_const_rhs_spec x y0 1 h0 d h

theorem solve_spec (a : List R) (a0inv : R) (b : List R) (h0 : coR a 0 * a0inv = 1) (d : Nat) (h : d < b.length) :
    ∑ k ∈ range (d+1), coR a k * coR (solveM a a0inv b) (d-k) = coR b d :=
  -- `R` as a module over itself: `solveM` is `solveMod` and `•` is `*`, by definition
  solveMod_spec a a0inv b h0 d h

theorem inv_left_inverse (x : List R) (y0 : R) (h0 : coR x 0 * y0 = 1) (h0' : y0 * coR x 0 = 1)
    (d : Nat) (h : d < x.length) :
    ∑ k ∈ range (d+1), coR (invM x y0) k * coR x (d-k) = if d = 0 then 1 else 0 := by
  -- `inv(A)` has a right inverse itself: `invM (invM x y0) x₀`
  have hyz := inv_right_inverse (invM x y0) (coR x 0) (by rw [invM_zero x y0 (Nat.zero_lt_of_lt h)]; exact h0')
  rw [invM_length] at hyz
  have key := left_inverse_of_right (.mk (coR x)) (.mk (coR (invM x y0))) (.mk (coR (invM (invM x y0) (coR x 0)))) x.length
  simp only [coeff_mul_range, PowerSeries.coeff_mk, PowerSeries.coeff_one] at key
  exact key (inv_right_inverse x y0 h0) hyz d h

theorem solve_unique (a : List R) (a0inv : R) (h0' : a0inv * coR a 0 = 1) (b z w : List R) (D : ℕ)
    (hz : ∀ d, d < D → ∑ k ∈ range (d+1), coR a k * coR z (d-k) = coR b d)
    (hw : ∀ d, d < D → ∑ k ∈ range (d+1), coR a k * coR w (d-k) = coR b d) (d : ℕ) (hd : d < D) :
    coR z d = coR w d := solveMod_unique h0' hz hw d hd

theorem det_through_lu {S : Type} [CommRing S] {n : ℕ} (σ : Equiv.Perm (Fin n)) (L U A : Matrix (Fin n) (Fin n) S)
    (h : (σ.permMatrix S) * L * U = A) (hL : L.BlockTriangular OrderDual.toDual) (hL1 : ∀ i, L i i = 1)
    (hU : U.BlockTriangular id) : A.det = (Equiv.Perm.sign σ : ℤ) * ∏ i, U i i := by
  rw [← h, Matrix.det_mul, Matrix.det_mul, Matrix.det_of_isLowerTriangular L hL, Matrix.det_of_isUpperTriangular hU,
    Matrix.det_permutation, prod_congr rfl fun i _ => hL1 i, prod_const_one, mul_one]

/-- `UTPM.logdet` (repaired code: `sum(log(abs(diag U)))`): `log|det A| = Σ log|Uᵢᵢ|` — the value of
`numpy.linalg.slogdet(A)[1]` — for a determinant of either sign -/
theorem logdet_through_lu {n : ℕ} (σ : Equiv.Perm (Fin n)) (L U A : Matrix (Fin n) (Fin n) ℝ)
    (h : (σ.permMatrix ℝ) * L * U = A) (hL : L.BlockTriangular OrderDual.toDual) (hL1 : ∀ i, L i i = 1)
    (hU : U.BlockTriangular id) (hnz : ∀ i, U i i ≠ 0) :
    Real.log |A.det| = ∑ i, Real.log |U i i| := by
  rw [det_through_lu σ L U A h hL hL1 hU, abs_mul, Finset.abs_prod]
  have hs : |(((Equiv.Perm.sign σ : ℤ)) : ℝ)| = 1 := by
    rw [← Int.cast_abs, Int.abs_eq_natAbs, Int.units_natAbs, Nat.cast_one, Int.cast_one]
  rw [hs, one_mul, Real.log_prod]
  intro i _
  exact abs_ne_zero.mpr (hnz i)

theorem logdet_through_lu_pos {n : ℕ} (σ : Equiv.Perm (Fin n)) (L U A : Matrix (Fin n) (Fin n) ℝ)
    (h : (σ.permMatrix ℝ) * L * U = A) (hL : L.BlockTriangular OrderDual.toDual) (hL1 : ∀ i, L i i = 1)
    (hU : U.BlockTriangular id) (hnz : ∀ i, U i i ≠ 0) (hpos : 0 < A.det) :
    Real.log A.det = ∑ i, Real.log |U i i| := by
  rw [← logdet_through_lu σ L U A h hL hL1 hU hnz, abs_of_pos hpos]

/-- non-vacuity over ℤ (a commutative instance of the ring): `x = 1 + 2t`, `y₀ = 1` -/
example : invM [(1:ℤ), 2, 0] 1 = [1, -2, 4] := by decide

/-- `solveRect` is the recursion of `_solve` with the right-hand side in the module of `n × k` matrices (in any left module:
`solveMod_spec`); for `k = n` it is the model's `solveM` (`solve_rectangular_square`), the definition the driver runs. -/
theorem solve_rectangular_spec {K : Type} [Ring K] {n k : ℕ} (A : List (Matrix (Fin n) (Fin n) K)) (A0inv : Matrix (Fin n) (Fin n) K)
    (B : List (Matrix (Fin n) (Fin k) K)) (h0 : coR A 0 * A0inv = 1) (d : Nat) (h : d < B.length) :
    ∑ c ∈ range (d+1), coR A c * coMd (solveRect A A0inv B) (d-c) = coMd B d := by
  let _ := rectModule (K := K) (n := n) (k := k)
  exact solveMod_spec A A0inv B h0 d h

theorem solve_rectangular_unique {K : Type} [Ring K] {n k : ℕ} (A : List (Matrix (Fin n) (Fin n) K)) (A0inv : Matrix (Fin n) (Fin n) K)
    (h0' : A0inv * coR A 0 = 1) (B Z W : List (Matrix (Fin n) (Fin k) K)) (D : ℕ)
    (hz : ∀ d, d < D → ∑ c ∈ range (d+1), coR A c * coMd Z (d-c) = coMd B d)
    (hw : ∀ d, d < D → ∑ c ∈ range (d+1), coR A c * coMd W (d-c) = coMd B d) (d : ℕ) (hd : d < D) :
    coMd Z d = coMd W d := by
  let _ := rectModule (K := K) (n := n) (k := k)
  exact solveMod_unique h0' hz hw d hd

theorem solve_rectangular_square {K : Type} [Ring K] {n : ℕ} (A : List (Matrix (Fin n) (Fin n) K)) (A0inv : Matrix (Fin n) (Fin n) K)
    (B : List (Matrix (Fin n) (Fin n) K)) : solveRect A A0inv B = solveM A A0inv B := rfl

/-- non-vacuity: a 1 × 1 matrix polynomial `A = 1 + 2t` meets the hypothesis with `A0inv = 1` -/
example : coR [(1 : Matrix (Fin 1) (Fin 1) ℤ), 2 • 1] 0 * 1 = 1 := by simp [coR]

/-- `_expm_pade<q>`: `U + V` and `V − U` are the numerator `N(x) = Σ b_k x^k` and the denominator `N(−x)` of the table `b` -/
theorem expm_pade_evaluation (q : Nat) (hq : q = 3 ∨ q = 5 ∨ q = 7 ∨ q = 9 ∨ q = 13) (x : ℚ) :
    padeU q x + padeV q x = padePoly q x ∧ padeV q x - padeU q x = padePoly q (-x) := by
  -- for each `q` two polynomial identities in `x` and the table entries `bq q k`, whatever the table holds
  rcases hq with rfl | rfl | rfl | rfl | rfl <;>
    simp only [padeU, padeV, padePoly, sum_range_succ, sum_range_zero] <;> constructor <;> ring

open PowerSeries in
/-- the tables of `expm_pade` are the `[q/q]` Padé approximants of `exp`: `D(X)·exp(X)` and `N(X)` agree up to order `2q` -/
theorem expm_pade_tables_match_exp (q : Nat) (hq : q = 3 ∨ q = 5 ∨ q = 7 ∨ q = 9 ∨ q = 13) (m : Nat) (hm : m ≤ 2 * q) :
    coeff m (padeDps q * exp ℚ) = coeff m (padeNps q) := by
  have h0 := pade_order q (by simpa using hq) m hm
  rw [padeDefect, foldl_add_range] at h0
  rw [coeff_mul_range]
  simp only [padeDps, padeNps, coeff_mk, coeff_exp]
  have : ∀ k ∈ range (m + 1), (if k % 2 = 0 then bq q k else -bq q k) * (algebraMap ℚ ℚ) (1 / ((m - k).factorial : ℚ))
      = (if k % 2 = 0 then bq q k else -bq q k) / factQ (m - k) := by
    intro k _
    rw [factQ_eq, Algebra.algebraMap_self, RingHom.id_apply, mul_one_div]
  rw [sum_congr rfl this]
  exact (sub_eq_zero.mp h0).symm

theorem expm_pade_order_sharp :
    padeDefect 3 7 ≠ 0 ∧ padeDefect 5 11 ≠ 0 ∧ padeDefect 7 15 ≠ 0 ∧ padeDefect 9 19 ≠ 0 ∧ padeDefect 13 27 ≠ 0 := by
  decide +kernel

theorem det_fallback_small_sizes {K : Type} [Field K] [CharZero K] :
    (∀ A : Matrix (Fin 1) (Fin 1) K, AV.FL.flDet A = A.det ∧ AV.FL.flAdj A = A.adjugate)
    ∧ (∀ A : Matrix (Fin 2) (Fin 2) K, AV.FL.flDet A = A.det ∧ AV.FL.flAdj A = A.adjugate)
    ∧ (∀ A : Matrix (Fin 3) (Fin 3) K, AV.FL.flDet A = A.det ∧ AV.FL.flAdj A = A.adjugate) :=
  ⟨AV.FLgen.fl_general, AV.FLgen.fl_general, AV.FLgen.fl_general⟩

theorem det_fallback_every_size {K : Type} [Field K] [CharZero K] {n : Type} [Fintype n] [DecidableEq n] [Nonempty n]
    (A : Matrix n n K) : AV.FL.flDet A = A.det ∧ AV.FL.flAdj A = A.adjugate :=
  AV.FLgen.fl_general A

end AV.C07
