import AlgopyVerif.Proofs.NthDeriv
import AlgopyVerif.Proofs.NthPiecewise
import AlgopyVerif.Proofs.NthErf
import AlgopyVerif.Proofs.NthLegendre
import AlgopyVerif.Proofs.SpecialFns
import Mathlib.Analysis.SpecialFunctions.Arsinh
import Mathlib.Analysis.SpecialFunctions.Arcosh
import Mathlib.Analysis.SpecialFunctions.Trigonometric.InverseDeriv
/-!
# C16 — closed-form n-th derivatives are the true derivatives

For each function of `algopy.nthderiv`, the closed form of the model (`Model/NthDeriv.lean`, the same definition the
driver evaluates on rationals) equals the iterated derivative, for every order `n` and every point of the domain:

    iteratedDeriv n f x = closedForm n x

* `exp, exp2, expm1, log, log2/log10 (any base), log1p, sqrt, square, negative, reciprocal, sin, cos, sinh, cosh, arctanh`.
* `polygamma` (`psi` and the derivative of `gammaln` are its case `m = 0`) and `hyperu`: for an abstract family of leaves,
  relative to the first-order relations of the SciPy leaves (Mathlib has no polygamma / Tricomi U).
* `arctan, arcsinh, arcsin, arccos, arccosh`: the model evaluates these closed forms in `Cx K` (pairs; Gaussian rationals
  in the driver) and the theorems interpret them in `ℂ` (`toC`); Legendre polynomials by Bonnet's recurrence, as
  `eval_legendre` is modelled.
* `erf, erfi` (finite sums): for the concrete functions `c ∫₀ˣ exp(∓s²) ds` and any `c` (`c = 2/√π` is erf / erfi).
* the piecewise functions away from their jumps / kinks: `step_nth` (every function that is constant near `x`:
  `rint, fix, floor, ceil, trunc, sign`), `absolute_nth`, `clip_nth`.
-/
open AV Set
namespace AV.C16

theorem exp_nth (n : ℕ) (x : ℝ) : iteratedDeriv n Real.exp x = dExp (Real.exp x) n := by
  rw [iteratedDeriv_eq_iterate, Real.iter_deriv_exp]; rfl

theorem exp2_nth (n : ℕ) (x : ℝ) :
    iteratedDeriv n (fun y : ℝ => (2:ℝ) ^ y) x = dExp2 ((2:ℝ) ^ x) (Real.log 2) n := by
  have h : (fun y : ℝ => (2:ℝ) ^ y) = fun y => Real.exp (Real.log 2 * y) :=
    funext fun y => Real.rpow_def_of_pos two_pos y
  rw [dExp2, powN_eq, h, iteratedDeriv_exp_const_mul, Real.rpow_def_of_pos two_pos, mul_comm]

theorem expm1_nth (n : ℕ) (x : ℝ) :
    iteratedDeriv n (fun y => Real.exp y - 1) x = dExpm1 (Real.exp x - 1) (Real.exp x) n :=
  iteratedDeriv_eq_of_hasDerivAt isOpen_univ (fun y _ => (Real.hasDerivAt_exp y).sub_const 1) (mem_univ x) n rfl
    fun n => exp_nth n x

theorem log_nth (n : ℕ) (x : ℝ) (hx : 0 < x) : iteratedDeriv n Real.log x = dLog (Real.log x) x n :=
  iteratedDeriv_eq_of_hasDerivAt isOpen_Ioi (fun _ hy => Real.hasDerivAt_log (ne_of_gt hy)) hx n rfl
    fun n => iteratedDeriv_inv_eq_dReciprocal n x

/-- `log2`, `log10`: any base with `lb = log b` -/
theorem logb_nth (lb : ℝ) (n : ℕ) (x : ℝ) (hx : 0 < x) :
    iteratedDeriv n (fun y => Real.log y / lb) x = dLogb (Real.log x / lb) lb x n := by
  rw [iteratedDeriv_div_const, log_nth n x hx]
  cases n <;> rfl

theorem log1p_nth (n : ℕ) (x : ℝ) (hx : -1 < x) :
    iteratedDeriv n (fun y => Real.log (1 + y)) x = dLog1p (Real.log (1 + x)) x n :=
  iteratedDeriv_eq_of_hasDerivAt (g := fun y => (1 + y)⁻¹) isOpen_Ioi
    (fun y (hy : -1 < y) => by simpa using ((hasDerivAt_id y).const_add 1).log (by simp only [id]; linarith)) hx n rfl
    fun n => by rw [congrFun (iteratedDeriv_comp_const_add n Inv.inv 1) x]; exact iteratedDeriv_inv_eq_dReciprocal n (1 + x)

theorem sqrt_nth (n : ℕ) (x : ℝ) (hx : 0 < x) : iteratedDeriv n Real.sqrt x = dSqrt (Real.sqrt x) x n := by
  rw [Real.sqrt_eq_rpow, funext Real.sqrt_eq_rpow, iteratedDeriv_rpow _ n x hx]
  cases n with
  | zero => simp [dSqrt, pochK]
  | succ n => rw [dSqrt, if_neg n.succ_ne_zero, powN_eq]; congr 2; norm_num [nat_eq]

theorem square_nth (n : ℕ) (x : ℝ) : iteratedDeriv n (fun y : ℝ => y * y) x = dSquare x n := by
  refine iteratedDeriv_eq_of_hasDerivAt (g := fun y => 2 * y + 0) isOpen_univ
    (fun y _ => ((hasDerivAt_id y).mul (hasDerivAt_id y)).congr_deriv (by simp [two_mul])) (mem_univ x) n rfl fun n => ?_
  rw [iteratedDeriv_of_locally_affine 2 0 .rfl]
  rcases n with _ | _ | n <;> simp [dClip, dSquare, nat_eq, mul_comm]

theorem negative_nth (n : ℕ) (x : ℝ) : iteratedDeriv n (fun y : ℝ => -y) x = dNegative x n := by
  rw [iteratedDeriv_of_locally_affine (-1) 0 (.of_forall fun y => by ring)]
  rcases n with _ | _ | n <;> rfl

theorem reciprocal_nth (n : ℕ) (x : ℝ) (hx : 0 < x) :
    iteratedDeriv n (fun y : ℝ => 1 / y) x = dReciprocal x n := by
  simpa only [one_div] using iteratedDeriv_inv_eq_dReciprocal n x

theorem reciprocal_nth_neg (n : ℕ) (x : ℝ) (hx : x < 0) :
    iteratedDeriv n (fun y : ℝ => 1 / y) x = dReciprocal x n := by
  simpa only [one_div] using iteratedDeriv_inv_eq_dReciprocal n x

theorem sin_nth (n : ℕ) (x : ℝ) : iteratedDeriv n Real.sin x = dSin (Real.sin x) (Real.cos x) n :=
  (sin_cos_nth n x).1

theorem cos_nth (n : ℕ) (x : ℝ) : iteratedDeriv n Real.cos x = dCos (Real.sin x) (Real.cos x) n :=
  (sin_cos_nth n x).2

theorem sinh_nth (n : ℕ) (x : ℝ) : iteratedDeriv n Real.sinh x = dSinh (Real.sinh x) (Real.cosh x) n :=
  (sinh_cosh_nth n x).1

theorem cosh_nth (n : ℕ) (x : ℝ) : iteratedDeriv n Real.cosh x = dCosh (Real.sinh x) (Real.cosh x) n :=
  (sinh_cosh_nth n x).2

/-- `arctanh` on `(-1,1)`, for any `l` with `l' = 1/(1-x²)` there (`numpy.arctanh`) -/
theorem arctanh_nth (l : ℝ → ℝ) (hl : ∀ x, x ∈ Ioo (-1:ℝ) 1 → HasDerivAt l (1 / (1 - x ^ 2)) x)
    (n : ℕ) (x : ℝ) (hx : x ∈ Ioo (-1:ℝ) 1) : iteratedDeriv n l x = dArctanh (l x) x n := by
  have hne : ∀ y ∈ Ioo (-1:ℝ) 1, 1 - y ≠ 0 ∧ y + 1 ≠ 0 := fun y hy =>
    ⟨by have := hy.2; linarith, by have := hy.1; linarith⟩
  -- partial fractions: `1/(1-y²) = ((1-y)⁻¹ + (y+1)⁻¹)/2`, each summand a shifted `y⁻¹`
  have hg : ∀ y ∈ Ioo (-1:ℝ) 1, HasDerivAt l (((1 - y)⁻¹ + (y + 1)⁻¹) / 2) y := fun y hy => by
    obtain ⟨h1, h2⟩ := hne y hy
    refine (hl y hy).congr_deriv ?_
    rw [show 1 - y ^ 2 = (1 - y) * (y + 1) by ring]
    field_simp
    ring
  obtain ⟨h1, h2⟩ := hne x hx
  refine iteratedDeriv_eq_of_hasDerivAt isOpen_Ioo hg hx n rfl fun n => ?_
  have c1 : ContDiffAt ℝ n (fun y : ℝ => (1 - y)⁻¹) x := (contDiffAt_const.sub contDiffAt_id).inv h1
  have c2 : ContDiffAt ℝ n (fun y : ℝ => (y + 1)⁻¹) x := (contDiffAt_id.add contDiffAt_const).inv h2
  rw [iteratedDeriv_div_const, iteratedDeriv_fun_add c1 c2,
    congrFun (iteratedDeriv_comp_const_sub n Inv.inv 1) x, congrFun (iteratedDeriv_comp_add_const n Inv.inv 1) x]
  simp only [iteratedDeriv_inv_eq_dReciprocal, dArctanh, dReciprocal, powN_eq, negOnePow_eq, fact_eq, nat_eq, Nat.succ_ne_zero,
    if_false, Nat.add_sub_cancel, smul_eq_mul]
  have e : ((-1:ℝ)) ^ n * (-1) ^ n = 1 := by rw [← mul_pow]; norm_num
  linear_combination ((n.factorial : ℝ) / (1 - x) ^ (n + 1) / 2) * e

/-- `polygamma(m, ·)` (and `psi = polygamma 0`, `gammaln' = polygamma 0`): order `n` is the leaf
`polygamma(m+n, x)`, given `polygamma(k+1,·) = polygamma(k,·)'` on `S` -/
theorem polygamma_nth (pgf : ℕ → ℝ → ℝ) (S : Set ℝ) (hS : IsOpen S)
    (hpg : ∀ k x, x ∈ S → HasDerivAt (pgf k) (pgf (k+1) x) x) (m n : ℕ) (x : ℝ) (hx : x ∈ S) :
    iteratedDeriv n (pgf m) x = pgf (m + n) x :=
  iteratedDeriv_of_chain S hS (fun n => pgf (m + n)) (fun n => hpg (m + n)) n x hx

/-- `hyperu(a, b, ·)`: order `n` is `(-1)^n (a)_n U(a+n, b+n, x)` given the contiguous relation
`∂ₓ U(a+k, b+k, x) = -(a+k) U(a+k+1, b+k+1, x)` of the leaves `u k = U(a+k, b+k, ·)` -/
theorem hyperu_nth (a : ℝ) (u : ℕ → ℝ → ℝ) (S : Set ℝ) (hS : IsOpen S)
    (hu : ∀ k x, x ∈ S → HasDerivAt (u k) (-(a + k) * u (k+1) x) x) (n : ℕ) (x : ℝ) (hx : x ∈ S) :
    iteratedDeriv n (u 0) x = negOnePow n * pochK a n * u n x := by
  have := iteratedDeriv_of_chain S hS (fun n y => (negOnePow n : ℝ) * pochK a n * u n y)
    (fun n x hx => hasDerivAt_hyperu a u hu n hx) n x hx
  simpa [negOnePow, pochK] using this

theorem arctan_nth (n : ℕ) (x : ℝ) : iteratedDeriv n Real.arctan x = dArctan (Real.arctan x) x n :=
  iteratedDeriv_eq_of_hasDerivAt isOpen_univ (fun y _ => by simpa only [one_div] using Real.hasDerivAt_arctan y)
    (mem_univ x) n rfl fun n => (iteratedDeriv_inv_one_add_sq n x).trans (dArctan_succ _ x n).symm

theorem arcsinh_nth (n : ℕ) (x : ℝ) :
    iteratedDeriv n Real.arsinh x = dArcsinh (Real.arsinh x) x (Real.sqrt (1 + 1 * x ^ 2))⁻¹ n :=
  iteratedDeriv_eq_of_hasDerivAt isOpen_univ (fun y _ => by simpa [rR] using Real.hasDerivAt_arsinh y) (mem_univ x) n rfl
    fun n => (iteratedDeriv_rR 1 1 1 (by norm_num) isOpen_univ (fun y _ => by positivity) n (mem_univ x)).trans
      (dArcsinh_eq _ x n).symm

theorem arcsin_nth (n : ℕ) (x : ℝ) (hx : x ∈ Ioo (-1:ℝ) 1) :
    iteratedDeriv n Real.arcsin x = dArcsin (Real.arcsin x) x (Real.sqrt (1 + (-1) * x ^ 2))⁻¹ n := by
  have hf : ∀ y ∈ Ioo (-1:ℝ) 1, HasDerivAt Real.arcsin (rR 1 (-1) y) y := fun y hy => by
    have e : rR 1 (-1) y = 1 / Real.sqrt (1 - y ^ 2) := by unfold rR; rw [one_div]; congr 2; ring
    rw [e]; exact Real.hasDerivAt_arcsin hy.1.ne' hy.2.ne
  exact iteratedDeriv_eq_of_hasDerivAt isOpen_Ioo hf hx n rfl fun n =>
    (iteratedDeriv_rR Complex.I 1 (-1) (by simp) isOpen_Ioo
      (fun y hy => by linarith [(sq_lt_one_iff_abs_lt_one y).mpr (abs_lt.mpr hy)]) n hx).trans (dArcsin_eq _ x n).symm

/-- as `nthderiv.arccos`: order 0 is `arccos x`, higher orders are the negated `arcsin` closed forms -/
theorem arccos_nth (n : ℕ) (x : ℝ) (hx : x ∈ Ioo (-1:ℝ) 1) :
    iteratedDeriv n Real.arccos x
      = if n = 0 then Real.arccos x else -dArcsin 0 x (Real.sqrt (1 + (-1) * x ^ 2))⁻¹ n := by
  -- `arccos = π/2 - arcsin`
  rw [show Real.arccos = fun y => Real.pi / 2 - Real.arcsin y from rfl]
  cases n with
  | zero => rfl
  | succ n => rw [iteratedDeriv_const_sub n.succ_pos, iteratedDeriv_neg, arcsin_nth _ x hx]; rfl

theorem arccosh_nth (n : ℕ) (x : ℝ) (hx : 1 < x) :
    iteratedDeriv n Real.arcosh x = dArccosh (Real.arcosh x) x (Real.sqrt (-1 + 1 * x ^ 2))⁻¹ n := by
  have hf : ∀ y ∈ Ioi (1:ℝ), HasDerivAt Real.arcosh (rR (-1) 1 y) y := fun y hy => by
    have e : rR (-1) 1 y = (Real.sqrt (y ^ 2 - 1))⁻¹ := by unfold rR; congr 2; ring
    rw [e]; exact Real.hasDerivAt_arcosh hy
  exact iteratedDeriv_eq_of_hasDerivAt isOpen_Ioi hf hx n rfl fun n =>
    (iteratedDeriv_rR 1 (-1) 1 (by norm_num) isOpen_Ioi
      (fun y (hy : 1 < y) => by linarith [one_lt_pow₀ hy two_ne_zero]) n hx).trans (dArccosh_eq _ x n).symm

/-- `erf` / `erfi` for every antiderivative `E` of `c exp(∓y²)`: the statement does not depend on how `erf` is
normalised at 0 -/
theorem erf_like_nth (alt : Bool) (c : ℝ) (E : ℝ → ℝ)
    (hE : ∀ y, HasDerivAt E (c * Real.exp ((if alt then -1 else 1) * (y * y))) y) (n : ℕ) (x : ℝ) :
    iteratedDeriv n E x
      = if n = 0 then E x else (c * Real.exp ((if alt then -1 else 1) * (x * x))) * erfPoly alt x n := by
  refine iteratedDeriv_eq_of_hasDerivAt (F := fun n => if n = 0 then _ else _ * erfPoly alt x n) isOpen_univ
    (fun y _ => hE y) (mem_univ x) n rfl fun n => ?_
  rw [if_neg n.succ_ne_zero, erfPoly_eq, iteratedDeriv_exp_sq]

/-- `erfC c y = c ∫₀ʸ exp(-s²) ds` -/
theorem erf_nth (c : ℝ) (n : ℕ) (x : ℝ) :
    iteratedDeriv n (erfC c) x = dErf (erfC c x) (c * Real.exp (-(x * x))) x n := by
  have := erf_like_nth true c (erfC c) (fun y => by simpa using erfC_hasDerivAt c y) n x
  simpa [dErf] using this

/-- `erfiC c y = c ∫₀ʸ exp(s²) ds` -/
theorem erfi_nth (c : ℝ) (n : ℕ) (x : ℝ) :
    iteratedDeriv n (erfiC c) x = dErfi (erfiC c x) (c * Real.exp (x * x)) x n := by
  have := erf_like_nth false c (erfiC c) (fun y => by simpa using erfiC_hasDerivAt c y) n x
  simpa [dErfi] using this

/-- every function constant in a neighbourhood of `x` (`rint, fix, floor, ceil, trunc, sign` away from their jumps):
order 0 is the value, all higher orders are 0 -/
theorem step_nth (f : ℝ → ℝ) (x : ℝ) (h : f =ᶠ[nhds x] fun _ => f x) (n : ℕ) :
    iteratedDeriv n f x = dStep (f x) n := by
  rw [iteratedDeriv_of_locally_const h]
  rcases n with _ | _ | n <;> rfl

theorem floor_nth (x : ℝ) (hx : ∀ k : ℤ, x ≠ k) (n : ℕ) :
    iteratedDeriv n (fun y : ℝ => (⌊y⌋ : ℝ)) x = dStep (⌊x⌋ : ℝ) n :=
  step_nth _ x (floor_locally_const x hx) n

theorem ceil_nth (x : ℝ) (hx : ∀ k : ℤ, x ≠ k) (n : ℕ) :
    iteratedDeriv n (fun y : ℝ => (⌈y⌉ : ℝ)) x = dStep (⌈x⌉ : ℝ) n :=
  step_nth _ x (ceil_locally_const x hx) n

theorem sign_nth (x : ℝ) (hx : x ≠ 0) (n : ℕ) :
    iteratedDeriv n (fun y : ℝ => (SignType.sign y : ℝ)) x = dStep (SignType.sign x : ℝ) n :=
  step_nth _ x (sign_locally_const x hx) n

theorem absolute_nth (x : ℝ) (hx : x ≠ 0) (n : ℕ) :
    iteratedDeriv n (fun y : ℝ => |y|) x = dAbsolute |x| (SignType.sign x : ℝ) n :=
  iteratedDeriv_of_locally_affine _ 0 (abs_locally_affine x hx) n

/-- `clip(a_min, a_max, ·)` away from the two kinks: order 0 is the clipped value, order 1 is the indicator of
the interval (`nthderiv.clip`: `(x >= a_min) * (x <= a_max)`), higher orders vanish -/
theorem clip_nth (lo hi x : ℝ) (hlh : lo ≤ hi) (h1 : x ≠ lo) (h2 : x ≠ hi) (n : ℕ) :
    iteratedDeriv n (fun y : ℝ => min (max y lo) hi) x
      = dClip (min (max x lo) hi) (if lo ≤ x ∧ x ≤ hi then 1 else 0) n := by
  rcases lt_or_gt_of_ne h1 with hlo | hlo
  · rw [if_neg fun h => absurd h.1 (not_le.mpr hlo)]
    exact iteratedDeriv_of_locally_const (clip_locally_const_lo lo hi x hlo) n
  · rcases lt_or_gt_of_ne h2 with hhi | hhi
    · rw [if_pos ⟨le_of_lt hlo, le_of_lt hhi⟩]
      exact iteratedDeriv_of_locally_affine 1 0 (clip_locally_id lo hi x hlo hhi) n
    · rw [if_neg fun h => absurd h.2 (not_le.mpr hhi)]
      exact iteratedDeriv_of_locally_const (clip_locally_const_hi lo hi x hhi) n

/-- `rint` away from the half-integers (there every round-to-nearest rule is `⌊y + 1/2⌋`) -/
theorem rint_nth (x : ℝ) (hx : ∀ k : ℤ, x + 1 / 2 ≠ k) (n : ℕ) :
    iteratedDeriv n (fun y : ℝ => (⌊y + 1 / 2⌋ : ℝ)) x = dStep (⌊x + 1 / 2⌋ : ℝ) n :=
  step_nth _ x (round_locally_const x hx) n

example : dArctan (K := ℚ) 0 1 3 = 1/2 := by decide +kernel
example : dErf (0:ℚ) 1 (1/2) 3 = -1 := by decide +kernel
example : dErfi (0:ℚ) 1 2 4 = 88 := by decide +kernel
example : dLog (0:ℚ) 2 3 = 1/4 := by decide +kernel
example : dReciprocal (2:ℚ) 2 = 1/4 := by decide +kernel
example : dSin (3/5 : ℚ) (4/5) 6 = -3/5 := by decide +kernel

end AV.C16
