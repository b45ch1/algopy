import AlgopyVerif.Proofs.Lift
import AlgopyVerif.Proofs.TapeNatural
/-!
# C11 — directions are propagated independently

Model level (L2, `Model/Utpm.lean`), for all `D`, `P`, shapes:

* every element-wise function (`mapS1 f`, i.e. all of C01's functions, with their
  per-direction leaves): the coefficients of direction `p` of the `P`-direction
  evaluation are those of the evaluation on direction `p` alone — also when the
  directions have different base points (the leaves are per direction);
* every binary operator (`zipS2 f` after UTPM-aware broadcasting) with `P` directions
  on both sides: result direction `p` is a function of direction `p` of the operands
  only.

**Reverse sweep** (`reverse_sweep_direction`): over the ring `Fin P → S` of `P` directions (one element of `S = ℝ[t]/(t^D)` per
direction), the adjoints of direction `p` produced by the reverse sweep of any tape whose computations act direction by direction
(the compatibility hypothesis: ring operations satisfy it for free, `ring_ops_direction_compatible`; for a series kernel it is what
`elementwise_direction` says, not restated at tape level) are the adjoints produced by the sweep of direction `p` alone
(`forward_sweep_direction`: the forward values as well).

Matrix kernels have explicit `p` loops in the code; for those the property is checked on the implementation by per-direction
re-evaluation (correspondence run), not by a theorem (partial).
-/
open AV NdArray
namespace AV.C11
variable {K : Type} [Field K]
attribute [local instance] inh0

theorem direction_series (p : Nat) (x : NdArray K) (D P : Nat) (s : List Nat) (hx : x.shape = D :: P :: s)
    (idx : List Nat) (h : ValidIdx s idx) : seriesAt (dirOf p x) 0 idx = seriesAt x p idx := by
  rw [seriesAt_eq hx, seriesAt_eq (dirOf_shape p hx)]
  exact map_range_congr fun d hd => get_dirOf p hx hd h

theorem elementwise_direction (f : List K → List K → List K) (leaves : List (NdArray K)) (x : NdArray K)
    (D P : Nat) (s : List Nat) (hx : x.shape = D :: P :: s) (hl : ∀ l ∈ leaves, l.shape = P :: s)
    (p : Nat) (idx : List Nat) (hp : p < P) (h : ValidIdx s idx) :
    seriesAt (mapS1 f (leaves.map (dirLeaf p)) (dirOf p x)) 0 idx = seriesAt (mapS1 f leaves x) p idx := by
  rw [seriesAt_mapS1 f leaves x D P s hx p idx hp h,
    seriesAt_mapS1 f _ (dirOf p x) D 1 s (dirOf_shape p hx) 0 idx Nat.one_pos h,
    direction_series p x D P s hx idx h]
  have : ((leaves.map (dirLeaf p)).map fun l => l.get (0 :: idx)) = leaves.map fun l => l.get (p :: idx) := by
    rw [List.map_map]
    exact List.map_congr_left fun l hlm => get_dirLeaf p (hl l hlm) h
  rw [this]

theorem binary_direction (f : List K → List K → List K) (x y z : NdArray K) (D P : Nat) (sx sy s : List Nat)
    (hx : x.shape = D :: P :: sx) (hy : y.shape = D :: P :: sy) (hs : broadcastShapes sx sy = some s)
    (hz : zipS2 f x y = some z) (p : Nat) (idx : List Nat) (hp : p < P) (h : ValidIdx s idx) :
    seriesAt z p idx = (List.range D).map fun d =>
      co (f ((List.range D).map fun d => x.get (d :: p :: bidx sx idx))
            ((List.range D).map fun d => y.get (d :: p :: bidx sy idx))) d :=
  seriesAt_zipS2_sameDP f hx hy hs hz hp h

/-- non-vacuity: a valid index of a concrete shape -/
example : ValidIdx [2, 3] [1, 2] := by simp [ValidIdx]

section
open AV.Tape
variable {S : Type} [CommRing S]

theorem reverse_sweep_direction (P : Nat) (p : Fin P) (t : List (Instr (Fin P → S))) (t' : List (Instr S))
    (hc : List.Forall₂ (Instr.Compat (fun x : Fin P → S => x p)) t t') (h bar : Heap (Fin P → S)) (c : Nat) :
    (rev t h bar c) p = rev t' (fun i => h i p) (fun i => bar i p) c :=
  congrFun (rev_natural (fun x : Fin P → S => x p) (fun _ _ => rfl) hc h bar) c

theorem forward_sweep_direction (P : Nat) (p : Fin P) (t : List (Instr (Fin P → S))) (t' : List (Instr S))
    (hc : List.Forall₂ (Instr.Compat (fun x : Fin P → S => x p)) t t') (h : Heap (Fin P → S)) (c : Nat) :
    (fwd t h c) p = fwd t' (fun i => h i p) c :=
  congrFun (fwd_natural (fun x : Fin P → S => x p) hc h) c

/-- ring operations act direction by direction (so every polynomial program satisfies the hypothesis) -/
theorem ring_ops_direction_compatible (P : Nat) (p : Fin P) (dst a b : Nat) :
    Comp.Compat (fun x : Fin P → S => x p) (addComp dst a b) (addComp dst a b)
    ∧ Comp.Compat (fun x : Fin P → S => x p) (subComp dst a b) (subComp dst a b)
    ∧ Comp.Compat (fun x : Fin P → S => x p) (mulComp dst a b) (mulComp dst a b) :=
  ring_ops_compat (Pi.evalRingHom (fun _ : Fin P => S) p) dst a b

/-- non-vacuity: the tape `c2 := c0 * c1; c0 := c2` over two directions is compatible with itself over one -/
example : List.Forall₂ (Instr.Compat (fun x : Fin 2 → ℤ => x 1))
    [.comp (mulComp 2 0 1), .write 0 2] [.comp (mulComp 2 0 1), .write 0 2] :=
  .cons (.comp _ _ (mulComp_compat (Pi.evalRingHom (fun _ : Fin 2 => ℤ) 1) 2 0 1)) (.cons (.write 0 2) .nil)
end

end AV.C11
