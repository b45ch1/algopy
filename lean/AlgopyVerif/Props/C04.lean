import AlgopyVerif.Proofs.LineDeriv
import AlgopyVerif.Proofs.Jet
import AlgopyVerif.Proofs.TapeNatural
/-!
# C04 — graph derivative drivers return the derivatives at the requested point

The drivers of `tracer.py:252-677` are `seed x → pushforward → seed ybar → pullback → slice xbar`.
In the cell-level model (`Proofs/Tape.lean`), with `A = R` (`D = 1`) or `A = R[t]/(t²)` (`D = 2`):

* `vec_jac_spec` (and `gradient_spec`, `jacobian` row by row): seeding the adjoint of the output
  cells with `w` and sweeping back gives the linear functional `dx ↦ ⟨w, F'(x) dx⟩`, i.e.
  `xbar = wᵀ J(x)`, at the point `x` held by the heap — whatever point, kind or degree the graph was
  *recorded* with (the tape is the program, the heap is the evaluation point);
* `jac_vec` is the tangent sweep itself.

Second-order drivers (`hessian, hess_vec, vec_hess, vec_hess_vec`) and `jacobian(UTPM)` use the same
identity over `A = R[t]/(t^D)`: the order-1 coefficient of `xbar` under first-order seeding.  The
`(D, M·P)` replication of `jacobian(UTPM)` is a theorem (`jacobian_replicated_layout`, `replicated_index`: direction
`q = p·M + m` of the one sweep is the sweep of input direction `p` seeded with output `m`); the `init_jacobian` seeding
and the final reshape are checked on the implementation against forward-mode derivatives and exact analytic
derivatives of polynomial programs (C04 run).  What the order-1 coefficient *is* is a theorem at program level
(`second_order_driver_coefficient`, `second_order_from_jet`): for every `F : ℝᴺ → ℝ` that is `C²` at `x`, the first
Taylor coefficient of the gradient entry `t ↦ ∂F/∂x_j (x + t v)` is `Σ_i ∂²F/∂x_j∂x_i · v_i` — with `v = e_p` the
Hessian row (`hessian`), with general `v` the Hessian-vector product (`hess_vec`, and `vec_hess` by symmetry of
the Hessian); the order-0 coefficient is the gradient entry itself.  Partial: no theorem for the final reshape of
`jacobian`'s result array and for `vec_hess_vec`.
-/
open AV.Tape
namespace AV.C04
variable {A : Type} [CommRing A]

/-- indicator seed of one output cell -/
def unitSeed (out : Nat) : Heap A := fun i => if i = out then 1 else 0

/-- `gradient` / one row of `jacobian`: the sweep seeded with the output cell returns the
derivative functional of that output at the evaluation point -/
theorem gradient_spec (n out : Nat) (hout : out < n) (tape : List (Instr A)) (h dh : Heap A)
    (hw : WF n tape h dh) :
    pair n (rev tape h (unitSeed out)) dh = tan tape h dh out := by
  rw [tape_adjoint n tape h dh _ hw, pair_comm]
  exact pair_unit_right hout _

/-- `vec_jac(w, x)`: any weight vector on the outputs -/
theorem vec_jac_spec (n : Nat) (tape : List (Instr A)) (h dh w : Heap A) (hw : WF n tape h dh) :
    pair n (rev tape h w) dh = pair n w (tan tape h dh) := tape_adjoint n tape h dh w hw

/-! ## `jacobian(x)` with a Taylor-polynomial argument: the `(D, M·P)` replicated layout

`CGraph.jacobian` (tracer.py:376-403) evaluates the program on `M·P` directions, direction `q = p·M + m` holding the input of
direction `p = q / M`, and seeds output component `m = q % M` of direction `q` with 1.  Over the ring `Fin (P * M) → S`
(`S = ℝ[t]/(t^D)`): direction `q` of the adjoints of this one sweep is the adjoint of the sweep of input direction `q / M` alone
seeded with the output cell `q % M` — i.e. (by `gradient_spec`) row `q % M` of the Jacobian along the curve of direction `q / M`. -/
section jac
variable {S : Type} [CommRing S]

/-- the replicated input heap: direction `q` holds direction `q / M` of `x` (the `% P` only manufactures the bound:
`q / M < P` already for `q < P * M`) -/
def repHeap (M P : Nat) (x : Heap (Fin P → S)) (hP : 0 < P) : Heap (Fin (P * M) → S) :=
  fun i q => x i ⟨q.val / M % P, Nat.mod_lt _ hP⟩

/-- the seed: output cell `outs m` is seeded with 1 in the directions `q` with `q % M = m` -/
def repSeed (M P : Nat) (outs : Nat → Nat) : Heap (Fin (P * M) → S) :=
  fun c q => if c = outs (q.val % M) then 1 else 0

theorem jacobian_replicated_layout (M P : Nat) (hP : 0 < P) (outs : Nat → Nat) (x : Heap (Fin P → S))
    (t : List (Instr (Fin (P * M) → S))) (t' : List (Instr S)) (q : Fin (P * M))
    (hc : List.Forall₂ (Instr.Compat (fun y : Fin (P * M) → S => y q)) t t') (c : Nat) :
    (rev t (repHeap M P x hP) (repSeed M P outs) c) q
      = rev t' (fun i => x i ⟨q.val / M % P, Nat.mod_lt _ hP⟩) (fun i => if i = outs (q.val % M) then 1 else 0) c :=
  congrFun (rev_natural (fun y : Fin (P * M) → S => y q) (fun _ _ => rfl) hc _ _) c

/-- for `q = p·M + m` with `m < M` the direction is `p` and the seeded output is `m` -/
theorem replicated_index (M p m : Nat) (hm : m < M) : (p * M + m) / M = p ∧ (p * M + m) % M = m := by
  constructor
  · rw [Nat.add_comm, Nat.add_mul_div_right _ _ (Nat.lt_of_le_of_lt (Nat.zero_le m) hm), Nat.div_eq_of_lt hm, Nat.zero_add]
  · rw [Nat.add_comm, Nat.add_mul_mod_self_right, Nat.mod_eq_of_lt hm]
end jac

/-! ## second-order drivers: the order-1 coefficient of the gradient along `x + t v` -/
section second
variable {N : ℕ}

/-- `hessian` (`v = e_p`), `hess_vec`, `vec_hess`: `[t¹] ∂F/∂x_j (x + t v) = (∇²F(x) v)_j` -/
theorem second_order_driver_coefficient (F : (Fin N → ℝ) → ℝ) (x v : Fin N → ℝ) (hF : ContDiffAt ℝ 2 F x) (j : Fin N) :
    tc (fun t => gradAt F (line x v t) j) 1 = ∑ i, hessAt F x j i * v i := tc_grad_line_one F x v hF j

/-- Hessian row: seeding direction `e_p` returns `∂²F/∂x_j∂x_p` -/
theorem hessian_driver_entry (F : (Fin N → ℝ) → ℝ) (x : Fin N → ℝ) (hF : ContDiffAt ℝ 2 F x) (p j : Fin N) :
    tc (fun t => gradAt F (line x (Pi.single p 1) t) j) 1 = hessAt F x j p := by
  rw [tc_grad_line_one F x _ hF j]
  simp only [Pi.single_apply, mul_ite, mul_one, mul_zero, Finset.sum_ite_eq', Finset.mem_univ, if_true]

/-- composition with C01 / C03: an adjoint coefficient list that is the jet of the gradient entry along the
seeded line (what the reverse sweep over `ℝ[t]/(t^D)` computes) carries the gradient at order 0 and the
Hessian-vector product at order 1 -/
theorem second_order_from_jet (F : (Fin N → ℝ) → ℝ) (x v : Fin N → ℝ) (hF : ContDiffAt ℝ 2 F x) (j : Fin N)
    (xbar : List ℝ) (hl : 1 < xbar.length) (hj : JetOf xbar (fun t => gradAt F (line x v t) j)) :
    co xbar 0 = gradAt F x j ∧ co xbar 1 = ∑ i, hessAt F x j i * v i := by
  refine ⟨?_, ?_⟩
  · rw [hj.coeff 0 (by omega), tc_zero, line_zero]
  · rw [hj.coeff 1 hl]; exact tc_grad_line_one F x v hF j
end second

end AV.C04
