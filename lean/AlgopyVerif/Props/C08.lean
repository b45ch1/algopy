import AlgopyVerif.Proofs.EighStep
import AlgopyVerif.Proofs.FactorWide
import Mathlib.Data.Matrix.ColumnRowPartitioned
/-!
# C08 — matrix factorizations satisfy their defining equations modulo t^D

For every size, every order `d ≥ 1` and coefficient sequences `ℕ → Matrix n n K` related by the order-`d` *step equations* of a kernel
(the body of its `for D in range(1, DT)` loop; `Proofs/Factor.lean`, `Proofs/EighStep.lean`), under the zeroth-order contract of the
NumPy leaf (`Q₀ᵀQ₀ = I`, `L₀ · L₀⁻¹ = I`, …), the order-`d` coefficient of the defining identity holds.  That the implementation's
output satisfies the step equations is evaluated in the C08 run on every generated case (the tie of the theorems' hypotheses to the
code), next to the residuals of all defining equations.

* square QR (`_qr_rectangular`): `Σ_{k≤d} Q_k R_{d-k} = A_d`, `Σ_{k≤d} Q_kᵀ Q_{d-k} = 0`, `R_d` upper triangular; tall (`M > N`) and
  wide (`M < N`) QR at the end of the file;
* `_cholesky`: `Σ_{k≤d} L_k L_{d-k}ᵀ = A_d` for symmetric `A_d`, through `projection_splits_symmetric`: `Φ(G) + Φ(G)ᵀ = G` for the
  code's projection (strictly lower part plus half the diagonal); `L_d` lower triangular;
* `UTPM.lu` / `lu2` (`F = L₀⁻¹(WᵀA_d − Σ L_{d-i}U_i)U₀⁻¹`, `U_d = triu(F)U₀`, `L_d = L₀ tril(F,-1)`): `Σ_{k≤d} L_k U_{d-k} = (WᵀA)_d`,
  `U_d` upper and `L_d` strictly lower triangular (unit diagonal of `L(t)`);
* `UTPM._eigh1` (`S = -½ Σ Q_kᵀQ_{d-k}`, `K = F + Q₀ᵀA_dQ₀ + SΛ₀ + Λ₀S`, `Λ_d = K` on the clusters of equal eigenvalues,
  `Q_d = Q₀(K∘H + S)`): `(QᵀQ)_d = 0` and `(QᵀAQ)_d = Λ_d` — the full symmetric eigendecomposition when the eigenvalues of `A₀` are
  distinct (clusters are singletons), the relaxed block problem otherwise;
* `UTPM.svd` by reformulation to `eigh` (`svd_from_block_eigh`, `svd_square_full_rank`), over any commutative ring (`ℝ[t]/(t^D)`).

Not proved (partial): `qr_full`, the recursion of `_eigh` over clusters for repeated eigenvalues, `eig`, orthogonality and the
`qr_full` completion of `svd` — checked by residuals on the implementation.
-/
open Matrix AV.Factor
namespace AV.C08
variable {n : Type} [Fintype n] [DecidableEq n] {K : Type} [Field K] [CharZero K]

theorem qr_defining_equation (lt : n → n → Prop) [DecidableRel lt] (A Q R : ℕ → Matrix n n K) (Rinv : Matrix n n K)
    (d : ℕ) (hd : 1 ≤ d) (h0 : (Q 0)ᵀ * Q 0 = 1) (st : QRStep lt A Q R Rinv d) :
    ∑ k ∈ Finset.range (d + 1), Q k * R (d - k) = A d :=
  cauchy_of_ends (fun i j => Q i * R j) hd <| by
    rw [st.hR, st.hQ, Matrix.mul_sub, ← Matrix.mul_assoc, mul_eq_one_comm.mp h0, Matrix.one_mul, Matrix.mul_assoc,
      sub_add_cancel, st.hH]

theorem qr_orthogonality (lt : n → n → Prop) [DecidableRel lt] (A Q R : ℕ → Matrix n n K) (Rinv : Matrix n n K)
    (d : ℕ) (hd : 1 ≤ d) (h0 : (Q 0)ᵀ * Q 0 = 1) (st : QRStep lt A Q R Rinv d) :
    ∑ k ∈ Finset.range (d + 1), (Q k)ᵀ * Q (d - k) = 0 :=
  orth_of_proj Q hd st.hS (st.hX ▸ sub_transpose_antisymm _) (by rw [st.hQ, ← Matrix.mul_assoc, h0, Matrix.one_mul])

theorem projection_splits_symmetric (lt : n → n → Prop) [DecidableRel lt]
    (htri : ∀ i j, lt i j ∨ i = j ∨ lt j i) (hasym : ∀ i j, lt i j → ¬ lt j i) (hirr : ∀ i, ¬ lt i i)
    (G : Matrix n n K) (hG : Gᵀ = G) : Phi lt G + (Phi lt G)ᵀ = G := by
  ext i j
  have hsym : G j i = G i j := congrFun (congrFun hG i) j
  have hne : ∀ a b, lt a b → a ≠ b := fun a b h e => hirr a (e ▸ h)
  simp only [Phi, Matrix.add_apply, Matrix.of_apply, Matrix.transpose_apply]
  rcases htri i j with h | rfl | h
  · rw [if_neg (hasym i j h), if_neg (hne i j h), if_pos h, zero_add, hsym]
  · rw [if_neg (hirr i), if_pos rfl, ← two_mul, mul_inv_cancel_left₀ two_ne_zero]
  · rw [if_pos h, if_neg (hasym j i h), if_neg (hne j i h), add_zero]

theorem cholesky_defining_equation (lt : n → n → Prop) [DecidableRel lt]
    (htri : ∀ i j, lt i j ∨ i = j ∨ lt j i) (hasym : ∀ i j, lt i j → ¬ lt j i) (hirr : ∀ i, ¬ lt i i)
    (A L : ℕ → Matrix n n K) (L0inv : Matrix n n K) (d : ℕ) (hd : 1 ≤ d)
    (hinv : L 0 * L0inv = 1) (hA : (A d)ᵀ = A d) (st : CholStep lt A L L0inv d) :
    ∑ k ∈ Finset.range (d + 1), L k * (L (d - k))ᵀ = A d := by
  -- the sum over `0 < k < d` is symmetric, hence so are `dF` and `G`, and `Φ(G) + Φ(G)ᵀ = G`
  have hdFT : st.dFᵀ = st.dF := by
    rw [st.hdF, transpose_sub, hA,
      transpose_sum_Ico_symm (fun i j => L j * (L i)ᵀ) fun i j => by rw [transpose_mul, transpose_transpose]]
  have hGT : st.Gᵀ = st.G := by
    rw [st.hG, transpose_mul, transpose_mul, transpose_transpose, hdFT, Matrix.mul_assoc]
  -- the LU step with `U = Lᵀ`: `P₁ = -Φ(G)`, `P₂ = P₁ᵀ`
  refine cauchy_of_split_step L (fun k => (L k)ᵀ) hd hinv (by rw [← transpose_mul, hinv, transpose_one])
    (P₁ := -Phi lt st.G) (P₂ := (-Phi lt st.G)ᵀ) (by rw [st.hL, Matrix.mul_neg]) (by rw [st.hL, ← transpose_mul, Matrix.mul_neg]) ?_
  rw [transpose_neg, ← neg_add, projection_splits_symmetric lt htri hasym hirr st.G hGT, st.hG, st.hdF, ← Matrix.neg_mul,
    ← Matrix.mul_neg, neg_sub]

theorem lu_defining_equation (lt : n → n → Prop) [DecidableRel lt] (B L U : ℕ → Matrix n n K) (L0inv U0inv : Matrix n n K)
    (d : ℕ) (hd : 1 ≤ d) (hL0 : L 0 * L0inv = 1) (hU0 : U0inv * U 0 = 1) (st : LUStep lt B L U L0inv U0inv d) :
    ∑ k ∈ Finset.range (d + 1), L k * U (d - k) = B d :=
  cauchy_of_split_step L U hd hL0 hU0 st.hL st.hU <| by
    rw [PL_add_PU, st.hF, st.hdF]

theorem eigh_orthogonality (same : n → n → Prop) [DecidableRel same] (A Q L : ℕ → Matrix n n K) (l : n → K)
    (Hm : Matrix n n K) (d : ℕ) (hd : 1 ≤ d) (h0 : (Q 0)ᵀ * Q 0 = 1) (hA : ∀ k, (A k)ᵀ = A k)
    (hss : ∀ r c, same r c → same c r) (hH0 : ∀ r c, same r c → Hm r c = 0)
    (hH1 : ∀ r c, ¬ same r c → Hm r c * (l c - l r) = 1) (st : Eigh1Step same A Q L l Hm d) :
    ∑ k ∈ Finset.range (d + 1), (Q k)ᵀ * Q (d - k) = 0 :=
  orth_of_proj Q hd (st.hG ▸ st.hS) (st.X_antisymm hA hss hH0 hH1) (st.proj h0)

/-- `_eigh1`, `QᵀAQ = Λ` at order `d` (all index triples `i + j + k = d`) -/
theorem eigh_defining_equation (same : n → n → Prop) [DecidableRel same] (A Q L : ℕ → Matrix n n K) (l : n → K)
    (Hm : Matrix n n K) (d : ℕ) (hd : 1 ≤ d) (h0 : (Q 0)ᵀ * Q 0 = 1) (hA : ∀ k, (A k)ᵀ = A k)
    (hA0 : A 0 * Q 0 = Q 0 * Matrix.diagonal l)
    (hss : ∀ r c, same r c → same c r) (hH0 : ∀ r c, same r c → Hm r c = 0)
    (hH1 : ∀ r c, ¬ same r c → Hm r c * (l c - l r) = 1) (st : Eigh1Step same A Q L l Hm d) :
    tripleAll (fun k => (Q k)ᵀ) A Q d = L d := by
  rw [st.tripleAll_eq hd h0 hA hA0 (st.X_antisymm hA hss hH0 hH1), st.hL]
  -- entry `(r, c)` is `K_rc − X_rc (λ_c − λ_r)`: inside a cluster `X_rc = 0`; across clusters `X_rc (λ_c − λ_r) = K_rc`
  ext r c
  rw [Matrix.add_apply, Matrix.sub_apply, diagonal_mul, mul_diagonal, of_apply, st.hX, of_apply]
  by_cases h : same r c
  · rw [if_pos h, hH0 r c h]; ring
  · rw [if_neg h]; linear_combination (-st.Km r c) * hH1 r c h

/-- `Λ_d` is zero outside the clusters (diagonal when the eigenvalues of `A₀` are distinct) -/
theorem eigh_block_structure (same : n → n → Prop) [DecidableRel same] (A Q L : ℕ → Matrix n n K) (l : n → K)
    (Hm : Matrix n n K) (d : ℕ) (st : Eigh1Step same A Q L l Hm d) (r c : n) (h : ¬ same r c) : L d r c = 0 := by
  rw [st.hL, of_apply, if_neg h]

/-- non-vacuity of the `H` hypotheses: distinct eigenvalues `1, 2` with `same = (=)` -/
example : ∃ Hm : Matrix (Fin 2) (Fin 2) ℚ, (∀ r c, r = c → Hm r c = 0) ∧
    (∀ r c, ¬ r = c → Hm r c * ((![1, 2] : Fin 2 → ℚ) c - (![1, 2] : Fin 2 → ℚ) r) = 1) :=
  ⟨!![0, 1; -1, 0], by
    intro r c h; subst h; fin_cases r <;> simp, by
    intro r c h; fin_cases r <;> fin_cases c <;> simp at h ⊢ <;> norm_num⟩

theorem qr_R_upper_triangular (lt : n → n → Prop) [DecidableRel lt]
    (hneg : ∀ i k j, lt j i → lt k i ∨ lt j k) (hasym : ∀ i j, lt i j → ¬ lt j i)
    (A Q R : ℕ → Matrix n n K) (Rinv : Matrix n n K) (d : ℕ)
    (hinv : Rinv * R 0 = 1) (hR0 : IsUpper lt (R 0)) (st : QRStep lt A Q R Rinv d) : IsUpper lt (R d) :=
  upper_of_qr_update hneg hasym st.hX st.hR hinv hR0

theorem cholesky_L_lower_triangular (lt : n → n → Prop) [DecidableRel lt]
    (hneg : ∀ i k j, lt j i → lt k i ∨ lt j k) (hasym : ∀ i j, lt i j → ¬ lt j i) (hirr : ∀ i, ¬ lt i i)
    (A L : ℕ → Matrix n n K) (L0inv : Matrix n n K) (d : ℕ) (hL0 : IsLower lt (L 0)) (st : CholStep lt A L L0inv d) :
    IsLower lt (L d) := by
  rw [st.hL]
  intro i j h
  rw [Matrix.neg_apply, lower_mul_lower lt hneg _ _ hL0 (Phi_isLower lt hasym hirr st.G) i j h, neg_zero]

theorem lu_U_upper_triangular (lt : n → n → Prop) [DecidableRel lt] (hneg : ∀ i k j, lt j i → lt k i ∨ lt j k)
    (B L U : ℕ → Matrix n n K) (L0inv U0inv : Matrix n n K) (d : ℕ) (hU0 : IsUpper lt (U 0))
    (st : LUStep lt B L U L0inv U0inv d) : IsUpper lt (U d) := by
  rw [st.hU]; exact upper_mul_upper lt hneg _ _ (PU_upper lt st.F) hU0

theorem lu_L_unit_lower_triangular (lt : n → n → Prop) [DecidableRel lt]
    (hneg : ∀ i k j, lt j i → lt k i ∨ lt j k) (hasym : ∀ i j, lt i j → ¬ lt j i)
    (B L U : ℕ → Matrix n n K) (L0inv U0inv : Matrix n n K) (d : ℕ) (hL0 : IsLower lt (L 0))
    (st : LUStep lt B L U L0inv U0inv d) : IsLower lt (L d) ∧ ∀ i, L d i i = 0 := by
  rw [st.hL]
  exact ⟨lower_mul_lower lt hneg _ _ hL0 (PL_isLower lt hasym st.F), lower_mul_PL_diag lt _ _ hL0⟩

/-- non-vacuity: `<` on `Fin 3` is negatively transitive -/
example : ∀ i k j : Fin 3, j < i → k < i ∨ j < k := by decide

/-- the masks used by the LU step: `tril(F,-1)` vanishes on and above the diagonal, `triu(F)` below it -/
theorem lu_masks (lt : n → n → Prop) [DecidableRel lt] (M : Matrix n n K) (i j : n) :
    (¬ lt j i → PL lt M i j = 0) ∧ (lt j i → PU lt M i j = 0) :=
  ⟨PL_strict lt M i j, PU_upper lt M i j⟩

/-- non-vacuity: the order relation hypotheses are met by `<` on `Fin 3` -/
example : (∀ i j : Fin 3, i < j ∨ i = j ∨ j < i) ∧ (∀ i j : Fin 3, i < j → ¬ j < i) ∧ (∀ i : Fin 3, ¬ i < i) := by
  refine ⟨?_, ?_, ?_⟩ <;> decide

section tall_qr
variable {m : Type} [Fintype m] [DecidableEq m]

/-- tall QR (`M > N`; `Q` is `m × n` with orthonormal columns, `R` is `n × n`): one pass of the loop of `_qr_rectangular`, whose last
step is `Q_d = (H − Q_0 R_d) R_0⁻¹` -/
theorem qr_tall_defining_equation (lt : n → n → Prop) [DecidableRel lt] (A Q : ℕ → Matrix m n K) (R : ℕ → Matrix n n K)
    (Rinv : Matrix n n K) (d : ℕ) (hd : 1 ≤ d) (hinv : Rinv * R 0 = 1) (st : QRTallStep lt A Q R Rinv d) :
    ∑ k ∈ Finset.range (d + 1), Q k * R (d - k) = A d :=
  cauchy_of_ends (fun i j => Q i * R j) hd <| by
    rw [st.hQ, Matrix.mul_assoc, hinv, Matrix.mul_one, add_sub_cancel, st.hH]

theorem qr_tall_orthogonality (lt : n → n → Prop) [DecidableRel lt] (A Q : ℕ → Matrix m n K) (R : ℕ → Matrix n n K)
    (Rinv : Matrix n n K) (d : ℕ) (hd : 1 ≤ d) (h0 : (Q 0)ᵀ * Q 0 = 1) (hinv' : R 0 * Rinv = 1) (st : QRTallStep lt A Q R Rinv d) :
    ∑ k ∈ Finset.range (d + 1), (Q k)ᵀ * Q (d - k) = 0 :=
  orth_of_proj Q hd st.hS (st.hX ▸ sub_transpose_antisymm _) (st.proj h0 hinv')

theorem qr_tall_R_upper_triangular (lt : n → n → Prop) [DecidableRel lt] (hneg : ∀ i k j, lt j i → lt k i ∨ lt j k)
    (hasym : ∀ i j, lt i j → ¬ lt j i) (A Q : ℕ → Matrix m n K) (R : ℕ → Matrix n n K) (Rinv : Matrix n n K) (d : ℕ)
    (hinv : Rinv * R 0 = 1) (hR0 : IsUpper lt (R 0)) (st : QRTallStep lt A Q R Rinv d) : IsUpper lt (R d) :=
  upper_of_qr_update hneg hasym st.hX st.hR hinv hR0

/-- non-vacuity: a 2 × 1 matrix with an orthonormal column meets `Q_0ᵀ Q_0 = 1` without `Q_0 Q_0ᵀ = 1` -/
example : (!![(1:ℚ); 0])ᵀ * !![(1:ℚ); 0] = 1 ∧ !![(1:ℚ); 0] * (!![(1:ℚ); 0])ᵀ ≠ 1 := by
  decide +kernel
end tall_qr

section wide_qr
variable {l : Type} [Fintype l]

/-- wide QR (`M < N`: `A = [A1 A2]`, `(Q, R1) = qr(A1)` by the square kernel, `R2 = Q(t)ᵀ A2(t)` by `_dot`): with the
orthogonality `Σ Q_kᵀ Q_{d−k} = δ_{d0}` that the square step delivers (`qr_orthogonality`, and `Q_0ᵀ Q_0 = 1` at order 0) the
second block satisfies `Σ Q_k R2_{d−k} = (A2)_d` for every `d < D` — `Q(t) Q(t)ᵀ = 1` follows from `Q(t)ᵀ Q(t) = 1` because
square matrices over the commutative ring `K⟦X⟧/(X^D)` with a left inverse have a right inverse (`Proofs/FactorWide.lean`). -/
theorem qr_wide_defining_equation (Q : ℕ → Matrix n n K) (A2 R2 : ℕ → Matrix n l K) (D : ℕ)
    (hQ : ∀ d, d < D → ∑ k ∈ Finset.range (d + 1), (Q k)ᵀ * Q (d - k) = if d = 0 then 1 else 0)
    (hR : ∀ d, d < D → R2 d = ∑ k ∈ Finset.range (d + 1), (Q k)ᵀ * A2 (d - k)) (d : ℕ) (hd : d < D) :
    ∑ k ∈ Finset.range (d + 1), Q k * R2 (d - k) = A2 d :=
  cauchy_left_inv_cancel (fun k => (Q k)ᵀ) Q A2 R2 D hQ hR d hd

/-- non-vacuity: the constant identity polynomial meets the orthogonality hypothesis at every order -/
example (d : ℕ) : ∑ k ∈ Finset.range (d + 1), ((fun e => if e = 0 then (1 : Matrix (Fin 2) (Fin 2) ℚ) else 0) k)ᵀ *
    (fun e => if e = 0 then (1 : Matrix (Fin 2) (Fin 2) ℚ) else 0) (d - k) = if d = 0 then 1 else 0 := by
  rw [Finset.sum_eq_single_of_mem 0 (Finset.mem_range.mpr d.succ_pos)]
  · simp only [if_pos, transpose_one, Matrix.one_mul, Nat.sub_zero]
  · intro b _ hb; simp only [if_neg hb, transpose_zero, Matrix.zero_mul]
end wide_qr

section svd
variable {S : Type} [CommRing S] {m n r : Type} [Fintype m] [Fintype n] [Fintype r] [DecidableEq m] [DecidableEq n] [DecidableEq r]

/-- `UTPM.svd` (algopy/utpm/utpm.py) through `eigh` of the Jordan–Wielandt matrix `B = [[0, A], [Aᵀ, 0]]`: it takes `U₁ = Q[:M, :r]`,
`V₁ = Q[M:, :r]`, `s = λ[:K]` (the largest eigenvalues) and returns `U = √2·U₁`, `V = √2·V₁`.  The eigen-equation for the selected
columns `[U₁; V₁]` is the pair of singular-vector equations, also after the scaling by `√2` (any scalar `c`) -/
theorem svd_from_block_eigh (A : Matrix m n S) (U1 : Matrix m r S) (V1 : Matrix n r S) (sig : r → S) (c : S)
    (h : fromBlocks (0 : Matrix m m S) A Aᵀ (0 : Matrix n n S) * fromRows U1 V1 = fromRows U1 V1 * diagonal sig) :
    A * (c • V1) = (c • U1) * diagonal sig ∧ Aᵀ * (c • U1) = (c • V1) * diagonal sig := by
  -- block row by block row, the eigen-equation of `[[0, A], [Aᵀ, 0]]` is the pair of singular-vector equations
  rw [fromBlocks_mul_fromRows, fromRows_mul, fromRows_ext_iff, Matrix.zero_mul, Matrix.zero_mul, zero_add, add_zero] at h
  simp only [Matrix.mul_smul, Matrix.smul_mul, h.1, h.2, and_self]

theorem svd_square_full_rank (A U V : Matrix n n S) (sig : n → S) (h : A * V = U * diagonal sig) (hV : V * Vᵀ = 1) :
    A = U * diagonal sig * Vᵀ := by
  rw [← h, Matrix.mul_assoc, hV, Matrix.mul_one]
end svd

end AV.C08
